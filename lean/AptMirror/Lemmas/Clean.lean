import AptMirror.Model.Clean
import AptMirror.Lemmas.Publish
import AptMirror.Lemmas.List
/-!
Lemmas about the recursive scan of `PathCleaner`.  The list functions of the model are maps over a directory's children
(`flattenList_eq`, `scanList_filesQ`, …), so every fact is one induction over trees (`Node.induct`).  The notion everything is
read through is `Sub n r m`: walking down the names `r` from node `n` reaches node `m`.  The flat view of a tree is the image of
`Sub` (`mem_flattenNode`), the two queues are its image under the scan's local test (`mem_filesQ_node`, `mem_foldersQ_node`);
that the flat view is closed under ancestors and, with distinct sibling names, has one entry per path are facts about `Sub`
(`sub_append`, `Sub.unique`).
-/
namespace AptMirror
namespace Clean

mutual
def wfNode : Node → Prop
  | .dir cs => wfList cs
  | _ => True
def wfList : List (String × Node) → Prop
  | [] => True
  | (nm, c) :: rest => nm ∉ rest.map Prod.fst ∧ wfNode c ∧ wfList rest
end

/-- induction over trees: a directory inherits the property from its children -/
theorem Node.induct {P : Node → Prop} (file : ∀ s, P (.file s)) (symlink : P .symlink)
    (dir : ∀ cs, (∀ nc ∈ cs, P nc.2) → P (.dir cs)) : ∀ n, P n :=
  @Node.rec P (fun cs => ∀ nc ∈ cs, P nc.2) (fun nc => P nc.2) file symlink dir
    (fun _ h => nomatch h) (fun _ _ hd tl _ h => (List.mem_cons.mp h).elim (· ▸ hd) (tl _)) (fun _ _ h => h)

/-! ### the list functions are maps over the children -/

theorem flattenList_eq (rel : Path) (cs : List (String × Node)) :
    flattenList rel cs = cs.flatMap fun nc => flattenNode (rel ++ [nc.1]) nc.2 := by
  induction cs with
  | nil => rfl
  | cons nc rest ih => simp [flattenList, ih]

theorem merge_filesQ (a b : Scan) : (a.merge b).filesQ = a.filesQ ++ b.filesQ := rfl
theorem merge_foldersQ (a b : Scan) : (a.merge b).foldersQ = a.foldersQ ++ b.foldersQ := rfl
theorem merge_needed (a b : Scan) : (a.merge b).needed = (a.needed || b.needed) := rfl

theorem scanList_filesQ (keep : List Path) (rel : Path) (cs : List (String × Node)) :
    (scanList keep rel cs).filesQ = cs.flatMap fun nc => (scanNode keep false (rel ++ [nc.1]) nc.2).filesQ := by
  induction cs with
  | nil => rfl
  | cons nc rest ih => simp [scanList, merge_filesQ, ih]

theorem scanList_foldersQ (keep : List Path) (rel : Path) (cs : List (String × Node)) :
    (scanList keep rel cs).foldersQ = cs.flatMap fun nc => (scanNode keep false (rel ++ [nc.1]) nc.2).foldersQ := by
  induction cs with
  | nil => rfl
  | cons nc rest ih => simp [scanList, merge_foldersQ, ih]

theorem scanList_needed (keep : List Path) (rel : Path) (cs : List (String × Node)) :
    (scanList keep rel cs).needed = cs.any fun nc => (scanNode keep false (rel ++ [nc.1]) nc.2).needed := by
  induction cs with
  | nil => rfl
  | cons nc rest ih => simp [scanList, merge_needed, ih]

theorem wfList_iff {cs : List (String × Node)} :
    wfList cs ↔ (∀ nc ∈ cs, wfNode nc.2) ∧ cs.Pairwise fun a b => a.1 ≠ b.1 := by
  induction cs with
  | nil => simp [wfList]
  | cons nc rest ih =>
    simp only [wfList, ih, List.mem_map, List.forall_mem_cons, List.pairwise_cons]
    constructor
    · rintro ⟨h1, h2, h3, h4⟩; exact ⟨⟨h2, h3⟩, fun b hb e => h1 ⟨b, hb, e.symm⟩, h4⟩
    · rintro ⟨⟨h2, h3⟩, h1, h4⟩; exact ⟨fun ⟨b, hb, e⟩ => h1 b hb e.symm, h2, h3, h4⟩

theorem properPrefix_iff {a b : Path} : properPrefix a b = true ↔ ∃ x r, b = a ++ x :: r := by
  simp only [properPrefix, Bool.and_eq_true, decide_eq_true_eq, isPrefix_iff_prefix]
  constructor
  · rintro ⟨⟨r, rfl⟩, hl⟩
    cases r with
    | nil => simp at hl
    | cons x r => exact ⟨x, r, rfl⟩
  · rintro ⟨x, r, rfl⟩
    exact ⟨List.prefix_append _ _, by simp⟩

theorem properPrefix_iff_prefix {a b : Path} : properPrefix a b = true ↔ a <+: b ∧ a ≠ b := by
  simp only [properPrefix, Bool.and_eq_true, decide_eq_true_eq, isPrefix_iff_prefix]
  exact and_congr_right fun h => ⟨fun hl e => by simp [e] at hl, fun hne => Nat.lt_of_le_of_ne h.length_le fun e => hne (h.eq_of_length e)⟩

theorem properPrefix_trans {a b c : Path} (h1 : properPrefix a b = true) (h2 : properPrefix b c = true) :
    properPrefix a c = true := by
  obtain ⟨x, r, rfl⟩ := properPrefix_iff.mp h1
  obtain ⟨y, s, rfl⟩ := properPrefix_iff.mp h2
  exact properPrefix_iff.mpr ⟨x, r ++ y :: s, by simp⟩

def Node.kind : Node → Kind
  | .file _ => .file
  | .symlink => .symlink
  | .dir _ => .dir

/-- `m` is the node reached from `n` by walking down the names `r` -/
inductive Sub : Node → Path → Node → Prop
  | here (n : Node) : Sub n [] n
  | down {cs : List (String × Node)} {x : String} {c : Node} {r : Path} {m : Node} :
      (x, c) ∈ cs → Sub c r m → Sub (.dir cs) (x :: r) m

theorem sub_nil {n m : Node} : Sub n [] m ↔ m = n :=
  ⟨fun h => by cases h; rfl, fun h => h ▸ .here _⟩

theorem sub_cons {n m : Node} {x : String} {r : Path} : Sub n (x :: r) m ↔ ∃ cs c, n = .dir cs ∧ (x, c) ∈ cs ∧ Sub c r m :=
  ⟨fun h => by cases h with | down hm hs => exact ⟨_, _, rfl, hm, hs⟩, fun ⟨_, _, h1, h2, h3⟩ => h1 ▸ .down h2 h3⟩

theorem sub_append {n k : Node} {r s : Path} : Sub n (r ++ s) k ↔ ∃ m, Sub n r m ∧ Sub m s k := by
  induction r generalizing n with
  | nil => simp [sub_nil]
  | cons x r ih =>
    simp only [List.cons_append, sub_cons, ih]
    constructor
    · rintro ⟨cs, c, rfl, hm, m, h1, h2⟩; exact ⟨m, ⟨cs, c, rfl, hm, h1⟩, h2⟩
    · rintro ⟨m, ⟨cs, c, rfl, hm, h1⟩, h2⟩; exact ⟨cs, c, rfl, hm, m, h1, h2⟩

theorem Sub.unique {n m m' : Node} {r : Path} (hwf : wfNode n) (h : Sub n r m) (h' : Sub n r m') : m' = m := by
  induction h with
  | here => exact sub_nil.mp h'
  | @down cs x c _ _ hc _ ih =>
    obtain ⟨_, c', e, hc', hs'⟩ := sub_cons.mp h'
    cases e
    obtain ⟨hw, hp⟩ := wfList_iff.mp (by simpa [wfNode] using hwf)
    have : (x, c') = (x, c) := eq_of_key_eq hp hc' hc rfl
    cases this
    exact ih (hw _ hc) hs'

theorem mem_flattenNode {rel : Path} {n : Node} {e : Path × Kind} :
    e ∈ flattenNode rel n ↔ ∃ r m, Sub n r m ∧ e = (rel ++ r, m.kind) := by
  induction n using Node.induct generalizing rel with
  | file s | symlink =>
    simp only [flattenNode, List.mem_singleton]
    constructor
    · rintro rfl; exact ⟨[], _, .here _, by simp [Node.kind]⟩
    · rintro ⟨r, m, h, rfl⟩; cases h; simp [Node.kind]
  | dir cs ih =>
    simp only [flattenNode, flattenList_eq, List.mem_cons, List.mem_flatMap]
    constructor
    · rintro (rfl | ⟨nc, hc, he⟩)
      · exact ⟨[], _, .here _, by simp [Node.kind]⟩
      · obtain ⟨r, m, hs, rfl⟩ := (ih nc hc).mp he
        exact ⟨nc.1 :: r, m, .down hc hs, by simp⟩
    · rintro ⟨r, m, h, rfl⟩
      cases h with
      | here => left; simp [Node.kind]
      | down hc hs => exact Or.inr ⟨_, hc, (ih _ hc).mpr ⟨_, _, hs, by simp⟩⟩

/-- the flat view is closed under ancestors inside the subtree -/
theorem flattenNode_ancestor {rel k : Path} {n : Node} {e : Path × Kind} (he : e ∈ flattenNode rel n)
    (h1 : ∃ t, k = rel ++ t) (h2 : properPrefix k e.1 = true) : (k, Kind.dir) ∈ flattenNode rel n := by
  obtain ⟨r, m, hs, rfl⟩ := mem_flattenNode.mp he
  obtain ⟨t, rfl⟩ := h1
  obtain ⟨x, u, h⟩ := properPrefix_iff.mp h2
  rw [List.append_assoc, List.append_cancel_left_eq] at h
  obtain ⟨m', hs', hd⟩ := sub_append.mp (h ▸ hs)
  obtain ⟨_, _, rfl, -⟩ := sub_cons.mp hd
  exact mem_flattenNode.mpr ⟨t, _, hs', rfl⟩

/-- with distinct sibling names a path names one entry -/
theorem flattenNode_unique {rel : Path} {n : Node} (hwf : wfNode n) {e1 e2 : Path × Kind} (h1 : e1 ∈ flattenNode rel n)
    (h2 : e2 ∈ flattenNode rel n) (he : e1.1 = e2.1) : e1 = e2 := by
  obtain ⟨r1, m1, hs1, rfl⟩ := mem_flattenNode.mp h1
  obtain ⟨r2, m2, hs2, rfl⟩ := mem_flattenNode.mp h2
  cases List.append_cancel_left he
  rw [Sub.unique hwf hs1 hs2]

/-- `_check_folder` on a directory, as one equation -/
theorem scanNode_dir (keep : List Path) (b : Bool) (rel : Path) (cs : List (String × Node)) :
    scanNode keep b rel (.dir cs) =
      if rel ∈ keep then { Scan.empty with needed := true }
      else { scanList keep rel cs with
        foldersQ := (scanList keep rel cs).foldersQ ++ if (scanList keep rel cs).needed || b then [] else [rel] } := by
  by_cases hk : rel ∈ keep
  · simp [scanNode, hk]
  · simp only [scanNode, List.contains_iff_mem, hk, if_false]
    generalize scanList keep rel cs = s
    cases s with | mk nd _ _ _ _ _ => cases nd <;> cases b <;> simp

/-- nothing from `rel` down to `rel ++ r`, both ends included, is kept -/
def Free (keep : List Path) (rel r : Path) : Prop := ∀ t, t <+: r → rel ++ t ∉ keep

theorem free_nil {keep : List Path} {rel : Path} : Free keep rel [] ↔ rel ∉ keep := by
  simp [Free]

theorem free_cons {keep : List Path} {rel r : Path} {x : String} :
    Free keep rel (x :: r) ↔ rel ∉ keep ∧ Free keep (rel ++ [x]) r := by
  simp only [Free, List.prefix_cons_iff]
  constructor
  · exact fun h => ⟨by simpa using h [] (Or.inl rfl), fun t ht => by simpa using h (x :: t) (Or.inr ⟨t, rfl, ht⟩)⟩
  · rintro ⟨h0, h⟩ t (rfl | ⟨t, rfl, ht⟩)
    · simpa using h0
    · simpa using h t ht

/-- a file is queued iff the scan reaches it: nothing on the way down to it, itself included, is kept -/
theorem mem_filesQ_node {keep : List Path} {b : Bool} {rel : Path} {n : Node} {p : Path} :
    p ∈ (scanNode keep b rel n).filesQ ↔ ∃ r m, Sub n r m ∧ m.kind = .file ∧ Free keep rel r ∧ p = rel ++ r := by
  induction n using Node.induct generalizing b rel with
  | file s =>
    by_cases hk : rel ∈ keep
    · simp only [scanNode, List.contains_iff_mem, hk, if_true, Scan.empty, List.not_mem_nil, false_iff]
      rintro ⟨r, _, h, -, hf, -⟩; cases h; exact free_nil.mp hf hk
    · simp only [scanNode, List.contains_iff_mem, hk, if_false, Scan.empty, List.mem_singleton]
      constructor
      · rintro rfl; exact ⟨[], _, .here _, rfl, free_nil.mpr hk, by simp⟩
      · rintro ⟨r, _, h, -, -, rfl⟩; cases h; simp
  | symlink =>
    simp only [scanNode, Scan.empty, List.not_mem_nil, false_iff]
    rintro ⟨r, _, h, hm, -⟩; cases h; cases hm
  | dir cs ih =>
    rw [scanNode_dir]
    by_cases hk : rel ∈ keep
    · simp only [hk, if_true, Scan.empty, List.not_mem_nil, false_iff]
      rintro ⟨r, _, -, -, hf, -⟩; exact hf [] List.nil_prefix (by simpa using hk)
    · simp only [hk, if_false, scanList_filesQ, List.mem_flatMap]
      constructor
      · rintro ⟨nc, hc, hp⟩
        obtain ⟨r, m, hs, hm, hf, rfl⟩ := (ih nc hc).mp hp
        exact ⟨nc.1 :: r, m, .down hc hs, hm, free_cons.mpr ⟨hk, hf⟩, by simp⟩
      · rintro ⟨r, m, h, hm, hf, rfl⟩
        cases h with
        | here => cases hm
        | down hc hs => exact ⟨_, hc, (ih _ hc).mpr ⟨_, m, hs, hm, (free_cons.mp hf).2, by simp⟩⟩

/-- a directory is queued iff the scan reaches it, it is not the cleaner's root, and its own scan found nothing that pins it -/
theorem mem_foldersQ_node {keep : List Path} {b : Bool} {rel : Path} {n : Node} {d : Path} :
    d ∈ (scanNode keep b rel n).foldersQ ↔ ∃ r cs, Sub n r (.dir cs) ∧ Free keep rel r ∧ d = rel ++ r ∧
      (b = true → r ≠ []) ∧ (scanList keep d cs).needed = false := by
  induction n using Node.induct generalizing b rel with
  | file s =>
    have : (scanNode keep b rel (.file s)).foldersQ = [] := by simp only [scanNode]; split <;> rfl
    simp only [this, List.not_mem_nil, false_iff]
    rintro ⟨r, _, h, -⟩; cases h
  | symlink =>
    simp only [scanNode, Scan.empty, List.not_mem_nil, false_iff]
    rintro ⟨r, _, h, -⟩; cases h
  | dir cs ih =>
    rw [scanNode_dir]
    by_cases hk : rel ∈ keep
    · simp only [hk, if_true, Scan.empty, List.not_mem_nil, false_iff]
      rintro ⟨r, _, -, hf, -⟩; exact hf [] List.nil_prefix (by simpa using hk)
    · simp only [hk, if_false, List.mem_append, scanList_foldersQ, List.mem_flatMap, List.mem_ite_nil_left,
        List.mem_singleton, Bool.or_eq_true, not_or, Bool.not_eq_true]
      constructor
      · rintro (⟨nc, hc, hd⟩ | ⟨⟨hn, hb⟩, rfl⟩)
        · obtain ⟨r, cs', hs, hf, rfl, -, hn⟩ := (ih nc hc).mp hd
          exact ⟨nc.1 :: r, cs', .down hc hs, free_cons.mpr ⟨hk, hf⟩, by simp, fun _ => List.cons_ne_nil _ _, hn⟩
        · exact ⟨[], cs, .here _, free_nil.mpr hk, by simp, by simp [hb], by simpa using hn⟩
      · rintro ⟨r, cs', h, hf, rfl, hb, hn⟩
        cases h with
        | here => exact Or.inr ⟨⟨by simpa using hn, by cases b <;> simp at hb ⊢⟩, by simp⟩
        | down hc hs => exact Or.inl ⟨_, hc, (ih _ hc).mpr ⟨_, cs', hs, (free_cons.mp hf).2, by simp, by simp, hn⟩⟩

/-- an entry makes its directory "needed": a symbolic link, or a kept path -/
def Pins (keep : List Path) (e : Path × Kind) : Prop := e.2 = .symlink ∨ e.1 ∈ keep

theorem needed_node (keep : List Path) (isRoot : Bool) (rel : Path) : (n : Node) →
    ((scanNode keep isRoot rel n).needed = true ↔ ∃ e ∈ flattenNode rel n, Pins keep e) := by
  intro n
  induction n using Node.induct generalizing isRoot rel with
  | file sz => by_cases hk : rel ∈ keep <;> simp [scanNode, hk, Scan.empty, flattenNode, Pins]
  | symlink => simp [scanNode, Scan.empty, flattenNode, Pins]
  | dir cs ih =>
    rw [scanNode_dir]
    by_cases hk : rel ∈ keep
    · simp [hk, Scan.empty, flattenNode, Pins]
    · simp only [hk, if_false, scanList_needed, List.any_eq_true, flattenNode, flattenList_eq, List.mem_cons,
        List.mem_flatMap, exists_eq_or_imp, Pins, reduceCtorEq, false_or]
      exact ⟨fun ⟨nc, hc, h⟩ => let ⟨e, he, hp⟩ := (ih nc hc _ _).mp h; ⟨e, ⟨nc, hc, he⟩, hp⟩,
        fun ⟨e, ⟨nc, hc, he⟩, hp⟩ => ⟨nc, hc, (ih nc hc _ _).mpr ⟨e, he, hp⟩⟩⟩

theorem needed_list {keep : List Path} {rel : Path} {cs : List (String × Node)} :
    (scanList keep rel cs).needed = true ↔ ∃ e ∈ flattenList rel cs, Pins keep e := by
  simp only [scanList_needed, List.any_eq_true, needed_node, flattenList_eq, List.mem_flatMap]
  exact ⟨fun ⟨nc, hc, e, he, hp⟩ => ⟨e, ⟨nc, hc, he⟩, hp⟩, fun ⟨e, ⟨nc, hc, he⟩, hp⟩ => ⟨nc, hc, e, he, hp⟩⟩

/-! ### order of the rmdir queue: nothing that comes later lies below something that comes earlier -/
def NotAbove (a b : Path) : Prop := properPrefix a b = false

theorem notAbove_iff {a b : Path} : NotAbove a b ↔ ¬ ∃ x r, b = a ++ x :: r := by
  rw [← properPrefix_iff, NotAbove, Bool.not_eq_true]

theorem foldersQ_below {keep : List Path} {b : Bool} {rel d : Path} {n : Node} (h : d ∈ (scanNode keep b rel n).foldersQ) :
    ∃ r, d = rel ++ r :=
  let ⟨r, _, _, _, e, _⟩ := mem_foldersQ_node.mp h; ⟨r, e⟩

/-- the queues of children with distinct names do not interfere -/
theorem pairwise_children {keep : List Path} {rel : Path} {cs : List (String × Node)} (hp : cs.Pairwise fun a b => a.1 ≠ b.1)
    (h : ∀ nc ∈ cs, (scanNode keep false (rel ++ [nc.1]) nc.2).foldersQ.Pairwise NotAbove) :
    (scanList keep rel cs).foldersQ.Pairwise NotAbove := by
  rw [scanList_foldersQ, List.pairwise_flatMap]
  refine ⟨h, hp.imp fun hne a ha b hb => ?_⟩
  obtain ⟨r, rfl⟩ := foldersQ_below ha
  obtain ⟨r', rfl⟩ := foldersQ_below hb
  rw [notAbove_iff]
  rintro ⟨y, t, h⟩
  simp only [List.append_assoc, List.cons_append, List.append_cancel_left_eq, List.cons.injEq] at h
  exact hne h.1.symm

theorem foldersQ_pairwise_node (keep : List Path) (isRoot : Bool) (rel : Path) : (n : Node) → wfNode n →
    (scanNode keep isRoot rel n).foldersQ.Pairwise NotAbove := by
  intro n
  induction n using Node.induct generalizing isRoot rel with
  | file sz => intro; by_cases hk : rel ∈ keep <;> simp [scanNode, hk, Scan.empty]
  | symlink => intro; simp [scanNode, Scan.empty]
  | dir cs ih =>
    intro hwf
    obtain ⟨hw, hp⟩ := wfList_iff.mp (by simpa [wfNode] using hwf)
    rw [scanNode_dir]
    by_cases hk : rel ∈ keep
    · simp [hk, Scan.empty]
    · simp only [hk, if_false, List.pairwise_append]
      refine ⟨pairwise_children hp fun nc hc => ih nc hc _ _ (hw nc hc), by split <;> simp, fun a ha b hb => ?_⟩
      -- the directory itself comes after everything queued below it
      obtain ⟨nc, -, ha⟩ := List.mem_flatMap.mp (scanList_foldersQ .. ▸ ha)
      obtain ⟨r, rfl⟩ := foldersQ_below ha
      rw [List.mem_singleton.mp (List.mem_ite_nil_left.mp hb).2, notAbove_iff]
      rintro ⟨y, t, h⟩
      simpa using congrArg List.length h

theorem foldersQ_pairwise_list (keep : List Path) (rel : Path) : (cs : List (String × Node)) → wfList cs →
    (scanList keep rel cs).foldersQ.Pairwise NotAbove := fun _ hwf =>
  let ⟨hw, hp⟩ := wfList_iff.mp hwf
  pairwise_children hp fun nc hc => foldersQ_pairwise_node keep false _ nc.2 (hw nc hc)

/-! ### the flat view of a directory's children -/

theorem mem_flattenList {rel : Path} {cs : List (String × Node)} {e : Path × Kind} :
    e ∈ flattenList rel cs ↔ ∃ x r m, Sub (.dir cs) (x :: r) m ∧ e = (rel ++ x :: r, m.kind) := by
  simp only [flattenList_eq, List.mem_flatMap, mem_flattenNode, sub_cons, Node.dir.injEq]
  constructor
  · rintro ⟨nc, hc, r, m, hs, rfl⟩; exact ⟨nc.1, r, m, ⟨_, _, rfl, hc, hs⟩, by simp⟩
  · rintro ⟨x, r, m, ⟨_, c, rfl, hc, hs⟩, rfl⟩; exact ⟨_, hc, r, m, hs, by simp⟩

theorem flattenList_ancestor (rel : Path) : (cs : List (String × Node)) → ∀ e ∈ flattenList rel cs, ∀ k, properPrefix rel k = true →
    properPrefix k e.1 = true → (k, Kind.dir) ∈ flattenList rel cs := by
  intro cs e he k h1 h2
  obtain ⟨x, t, rfl⟩ := properPrefix_iff.mp h1
  have := flattenNode_ancestor (n := .dir cs) (by rw [flattenNode]; exact List.mem_cons_of_mem _ he) ⟨_, rfl⟩ h2
  rw [flattenNode, List.mem_cons] at this
  exact this.resolve_left fun e => by simpa using congrArg (fun e => e.1.length) e

theorem flattenList_unique (rel : Path) : (cs : List (String × Node)) → wfList cs → ∀ e1 ∈ flattenList rel cs, ∀ e2 ∈ flattenList rel cs, e1.1 = e2.1 → e1 = e2 := by
  intro cs hwf e1 h1 e2 h2 he
  refine flattenNode_unique (rel := rel) (n := .dir cs) (by simpa [wfNode] using hwf) ?_ ?_ he <;>
    rw [flattenNode] <;> exact List.mem_cons_of_mem _ ‹_›

/-- `Free` below a child, in the vocabulary of prefixes -/
theorem free_child_iff {keep : List Path} {rel r : Path} {x : String} :
    Free keep (rel ++ [x]) r ↔ ∀ k ∈ keep, ¬ (properPrefix rel k = true ∧ isPrefix k (rel ++ x :: r) = true) := by
  constructor
  · rintro h k hk ⟨h1, h2⟩
    obtain ⟨y, t, rfl⟩ := properPrefix_iff.mp h1
    obtain ⟨rfl, ht⟩ := List.cons_prefix_cons.mp ((List.prefix_append_right_inj rel).mp (isPrefix_iff_prefix.mp h2))
    exact h t ht (by simpa using hk)
  · intro h t ht hk
    refine h _ hk ⟨properPrefix_iff.mpr ⟨x, t, by simp⟩, isPrefix_iff_prefix.mpr ?_⟩
    simpa using (List.prefix_append_right_inj (rel ++ [x])).mpr ht

theorem filesQ_list (keep : List Path) (rel : Path) : (cs : List (String × Node)) → ∀ p,
    p ∈ (scanList keep rel cs).filesQ ↔
      ((p, Kind.file) ∈ flattenList rel cs ∧ ∀ k ∈ keep, ¬ (properPrefix rel k = true ∧ isPrefix k p = true)) := by
  intro cs p
  simp only [scanList_filesQ, flattenList_eq, List.mem_flatMap, mem_filesQ_node, mem_flattenNode, Prod.mk.injEq]
  constructor
  · rintro ⟨nc, hc, r, m, hs, hm, hf, rfl⟩
    exact ⟨⟨nc, hc, r, m, hs, rfl, hm.symm⟩, by simpa using free_child_iff.mp hf⟩
  · rintro ⟨⟨nc, hc, r, m, hs, rfl, hm⟩, hf⟩
    exact ⟨nc, hc, r, m, hs, hm.symm, free_child_iff.mpr (by simpa using hf), rfl⟩

/-! ### a whole tree: `scan keep root`, against the flat view `flattenNode [] root` -/

theorem kind_eq_dir {m : Node} : m.kind = .dir ↔ ∃ cs, m = .dir cs := by cases m <;> simp [Node.kind]

theorem mem_flat {root : Node} {e : Path × Kind} : e ∈ flattenNode [] root ↔ ∃ m, Sub root e.1 m ∧ e.2 = m.kind := by
  simp only [mem_flattenNode, List.nil_append, Prod.ext_iff]
  exact ⟨fun ⟨r, m, h, h1, h2⟩ => ⟨m, h1 ▸ h, h2⟩, fun ⟨m, h, h2⟩ => ⟨_, m, h, rfl, h2⟩⟩

/-- seen from the root of a well-formed tree, the entries of a directory's children are the entries strictly below it -/
theorem mem_flattenList_below {root : Node} (hwf : wfNode root) {d : Path} {cs : List (String × Node)}
    (hd : Sub root d (.dir cs)) {e : Path × Kind} :
    e ∈ flattenList d cs ↔ e ∈ flattenNode [] root ∧ properPrefix d e.1 = true := by
  rw [mem_flattenList, mem_flat, properPrefix_iff]
  constructor
  · rintro ⟨x, r, m, hs, rfl⟩
    exact ⟨⟨m, sub_append.mpr ⟨_, hd, hs⟩, rfl⟩, x, r, rfl⟩
  · rintro ⟨⟨m, hs, hk⟩, x, r, he⟩
    obtain ⟨m', hd', hs'⟩ := sub_append.mp (he ▸ hs)
    cases Sub.unique hwf hd hd'
    exact ⟨x, r, m, hs', Prod.ext he hk⟩

theorem free_root {keep : List Path} {p : Path} : Free keep [] p ↔ p ∉ keep ∧ ∀ k ∈ keep, properPrefix k p = false := by
  simp only [Free, List.nil_append]
  constructor
  · refine fun h => ⟨h p List.prefix_rfl, fun k hk => Bool.eq_false_iff.mpr fun hpp => ?_⟩
    obtain ⟨x, r, rfl⟩ := properPrefix_iff.mp hpp
    exact h k (List.prefix_append _ _) hk
  · rintro ⟨h0, h⟩ t ⟨r, rfl⟩ hk
    cases r with
    | nil => exact h0 (by simpa using hk)
    | cons x r => exact absurd (properPrefix_iff.mpr ⟨x, r, rfl⟩) (by rw [h t hk]; simp)

theorem mem_filesQ_scan {keep : List Path} {root : Node} {p : Path} :
    p ∈ (scan keep root).filesQ ↔ (p, Kind.file) ∈ flattenNode [] root ∧ Free keep [] p := by
  simp only [scan, mem_filesQ_node, List.nil_append, mem_flat]
  exact ⟨fun ⟨r, m, h, hm, hf, e⟩ => e ▸ ⟨⟨m, h, hm.symm⟩, hf⟩, fun ⟨⟨m, h, hm⟩, hf⟩ => ⟨p, m, h, hm.symm, hf, rfl⟩⟩

theorem mem_foldersQ_scan {keep : List Path} {root : Node} {d : Path} :
    d ∈ (scan keep root).foldersQ ↔
      ∃ cs, Sub root d (.dir cs) ∧ d ≠ [] ∧ Free keep [] d ∧ (scanList keep d cs).needed = false := by
  simp only [scan, mem_foldersQ_node, List.nil_append, forall_const]
  exact ⟨fun ⟨r, cs, h, hf, e, hne, hn⟩ => e ▸ ⟨cs, h, hne, hf, e ▸ hn⟩, fun ⟨cs, h, hne, hf, hn⟩ => ⟨d, cs, h, hf, rfl, hne, hn⟩⟩

/-- whatever the tree, a queued path is an entry of it, of the queue's kind, and not the root -/
theorem queued_inside (keep : List Path) (root : Node) (p : Path) :
    (p ∈ (scan keep root).filesQ → (p, Kind.file) ∈ flattenNode [] root) ∧
    (p ∈ (scan keep root).foldersQ → (p, Kind.dir) ∈ flattenNode [] root ∧ p ≠ []) :=
  ⟨fun h => (mem_filesQ_scan.mp h).1, fun h => let ⟨_, hs, hne, _⟩ := mem_foldersQ_scan.mp h; ⟨mem_flat.mpr ⟨_, hs, rfl⟩, hne⟩⟩

/-- whatever the tree, nothing at or below a kept path is queued -/
theorem kept_not_queued {keep : List Path} {root : Node} {k p : Path} (hk : k ∈ keep) (hp : isPrefix k p = true) :
    p ∉ (scan keep root).filesQ ∧ p ∉ (scan keep root).foldersQ :=
  ⟨fun h => (mem_filesQ_scan.mp h).2 k (isPrefix_iff_prefix.mp hp) hk,
   fun h => let ⟨_, _, _, hf, _⟩ := mem_foldersQ_scan.mp h; hf k (isPrefix_iff_prefix.mp hp) hk⟩

/-! ### executing the rmdir queue -/
def rmdirStep (cur : List (Path × Kind)) (d : Path) : Option (List (Path × Kind)) :=
  if cur.any (fun e => properPrefix d e.1) then none else some (cur.filter (fun e => e.1 ≠ d))

/-- if every entry below a queued directory is itself queued, and no queued directory comes before one that lies below it,
    the queue runs through and removes exactly the queued paths -/
theorem rmdir_run (q : List Path) (fs : List (Path × Kind)) (hpw : q.Pairwise NotAbove)
    (hclosed : ∀ d ∈ q, ∀ e ∈ fs, properPrefix d e.1 = true → e.1 ∈ q) :
    q.foldlM rmdirStep fs = some (fs.filter (fun e => !q.contains e.1)) := by
  induction q generalizing fs with
  | nil => simpa using (List.filter_eq_self.mpr fun _ _ => rfl).symm
  | cons d q ih =>
    obtain ⟨hd, hq⟩ := List.pairwise_cons.mp hpw
    -- nothing is left below `d`: it would be queued, and not later than `d`
    have hnone : fs.any (fun e => properPrefix d e.1) = false := by
      rw [List.any_eq_false]
      intro e he hpp
      rcases List.mem_cons.mp (hclosed d List.mem_cons_self e he hpp) with h | h
      · obtain ⟨x, r, hr⟩ := properPrefix_iff.mp hpp
        simpa [h] using congrArg List.length hr
      · exact absurd hpp (by rw [hd _ h]; simp)
    rw [List.foldlM_cons, rmdirStep, if_neg (by simp [hnone]), Option.bind_eq_bind, Option.bind_some, ih _ hq, List.filter_filter]
    · congr 1
      apply List.filter_congr
      intro e _
      by_cases hed : e.1 = d <;> simp [hed]
    · intro d' hd' e he hpp
      obtain ⟨he, hne⟩ := List.mem_filter.mp he
      exact (List.mem_cons.mp (hclosed d' (List.mem_cons_of_mem _ hd') e he hpp)).resolve_left (by simpa using hne)

end Clean
end AptMirror
