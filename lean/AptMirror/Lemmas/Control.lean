import AptMirror.Model.Control
namespace AptMirror

/-- `download_release_files` stops at the first valid round among the `fuel` it is allowed, and fails if there is none -/
theorem releaseLoop_spec (rounds : Nat → Round) (fuel i : Nat) (hf : 0 < fuel) :
    (∃ j, i ≤ j ∧ j < i + fuel ∧ (rounds j).valid = true ∧ (∀ k, i ≤ k → k < j → (rounds k).valid = false) ∧
      releaseLoop rounds fuel i = (j + 1, some (rounds j).hasErrors)) ∨
    ((∀ k, i ≤ k → k < i + fuel → (rounds k).valid = false) ∧ releaseLoop rounds fuel i = (i + fuel, none)) := by
  induction fuel generalizing i with
  | zero => omega
  | succ fuel ih =>
    unfold releaseLoop
    cases hv : (rounds i).valid with
    | true => exact .inl ⟨i, Nat.le_refl _, by omega, hv, fun k h1 h2 => by omega, by simp⟩
    | false =>
      have hi : ∀ k, i ≤ k → k < i + 1 → (rounds k).valid = false := fun k h1 h2 => by
        rw [show k = i by omega]; exact hv
      by_cases hf0 : fuel = 0
      · subst hf0; exact .inr ⟨hi, by simp⟩
      · simp only [Bool.false_eq_true, if_false, hf0]
        rcases ih (i + 1) (by omega) with ⟨j, h1, h2, h3, h4, h5⟩ | ⟨h1, h2⟩
        · refine .inl ⟨j, by omega, by omega, h3, fun k hk1 hk2 => ?_, h5⟩
          by_cases hk : k = i
          · rw [hk]; exact hv
          · exact h4 k (by omega) hk2
        · refine .inr ⟨fun k hk1 hk2 => ?_, by rw [h2]; congr 1; omega⟩
          by_cases hk : k = i
          · rw [hk]; exact hv
          · exact h1 k (by omega) (by omega)
/-- the errors that stop a repository after its release files were accepted in round `n` -/
def RepoPlan.stageErrors (p : RepoPlan) (n : Nat) : Bool :=
  (p.rounds n).hasErrors || p.indexErrors || p.indexMissing || p.poolErrors || p.poolMissing

/-- The four ways `mirror()` can end: no valid release files in any allowed round; or they are first valid in round `n`, and then
    there is nothing to mirror, or a stage reports an error or a missing file, or the repository is published. -/
theorem mirrorControl_cases (p : RepoPlan) :
    ((∀ j, j < max 1 p.retries → (p.rounds j).valid = false) ∧ mirrorControl p = (roundStages (max 1 p.retries), false)) ∨
    ∃ n, n < max 1 p.retries ∧ (p.rounds n).valid = true ∧ (∀ j, j < n → (p.rounds j).valid = false) ∧
      ((p.metadataEmpty = true ∧ mirrorControl p = (roundStages (n + 1), false)) ∨
       (p.metadataEmpty = false ∧ p.stageErrors n = true ∧
          mirrorControl p = (roundStages (n + 1) ++ [.indices, .skelClean, .pool], false)) ∨
       (p.metadataEmpty = false ∧ p.stageErrors n = false ∧
          mirrorControl p = (roundStages (n + 1) ++ [.indices, .skelClean, .pool] ++ [.publish] ++
            (if p.clean then [.clean] else []), true))) := by
  unfold mirrorControl
  rcases releaseLoop_spec p.rounds (max 1 p.retries) 0 (by omega) with ⟨n, _, h2, h3, h4, h5⟩ | ⟨h1, h2⟩
  · rw [h5]
    refine .inr ⟨n, by omega, h3, fun j hj => h4 j (Nat.zero_le _) hj, ?_⟩
    cases hm : p.metadataEmpty with
    | true => exact .inl ⟨rfl, rfl⟩
    | false =>
      cases he : p.stageErrors n with
      | true => exact .inr (.inl ⟨rfl, rfl, by unfold RepoPlan.stageErrors at he; simp [he]⟩)
      | false => exact .inr (.inr ⟨rfl, rfl, by unfold RepoPlan.stageErrors at he; simp [he]⟩)
  · rw [h2]
    exact .inl ⟨fun j hj => h1 j (Nat.zero_le _) (by omega), by simp⟩

end AptMirror
