import AptMirror.Model.Clean
import AptMirror.Model.Config
import AptMirror.Model.Control
import AptMirror.Model.Download
import AptMirror.Model.DownloadFile
import AptMirror.Model.FS
import AptMirror.Model.Http
import AptMirror.Model.Index
import AptMirror.Model.Interleave
import AptMirror.Model.Lock
import AptMirror.Model.Mirror
import AptMirror.Model.Netrc
import AptMirror.Model.PathSafe
import AptMirror.Model.Publish
import AptMirror.Model.Rate
import AptMirror.Model.Release
import AptMirror.Model.ReleaseStage
import AptMirror.Model.Sched
import AptMirror.Model.Select
import AptMirror.Model.Str
import AptMirror.Model.Unpack
import AptMirror.Model.Vars
