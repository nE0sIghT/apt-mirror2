import AptMirror.Props.C02
import AptMirror.Props.C05
/-!
# C01 — exit status 0 implies a complete, size-consistent published mirror

> Whenever a run exits with status 0, every repository's published tree is self-consistent: each index
> that the published Release/InRelease lists and the configuration selects is present in at least one
> compression variant with exactly the listed size, and every package or source file named by the
> published Packages/Sources indices (…) exists under the mirror root with exactly the size the index
> declares. This holds whatever the upstream serves and whatever local I/O errors occur during the run.

The statement is proved as a chain over the models of the three layers:

1. `C01_exit0_all_stages_clean` (Model/Control): exit 0 ⇒ for every repository the accepted release round
   was valid and error free, the index stage and the pool stage reported neither errors nor missing
   files, and the stage sequence ends `… indices, skelClean, pool, publish[, clean]`.
2. `C01_clean_stage_all_obtained` (Model/Download): a `download()` that reports neither errors nor missing
   files has put a variant of *every* queued file that is neither optional nor under ignore_errors into
   the obtained set — for every oracle and every pre-existing tree.
3. `C05_obtained_sound_partial`: every obtained variant has the declared size at every alias.
4. `C03_publish_final`: what `move_metadata` publishes is exactly the staged tree.

A local I/O error inside a transfer is a *raised* `download_file`; in the repaired code
(fix 3f69360) `download()` counts it as an error, i.e. it is one of the `…Errors = true` outcomes of
step 1.  Which files are queued (selection from Release, parsing of Packages/Sources) is C10/C09; the
end-to-end conclusion `exit = 0 ⇒ fsck clean` is checked on the implementation by the independent
`fsck` monitor of the harness on every scenario.
-/
namespace AptMirror

/-- **C01 step 1.** Exit status 0 ⇒ every repository went through all stages without an error or a
    missing file, was published, and `publish` came after `pool` which came after `skelClean`. -/
theorem C01_exit0_all_stages_clean (plans : List RepoPlan) (hne : plans ≠ []) (h0 : runControl plans = 0) :
    ∀ p ∈ plans, (mirrorControl p).2 = true ∧ p.metadataEmpty = false ∧ p.indexErrors = false ∧ p.indexMissing = false ∧
      p.poolErrors = false ∧ p.poolMissing = false ∧
      ∃ n, (mirrorControl p).1 = roundStages n ++ [.indices, .skelClean, .pool, .publish] ++ (if p.clean then [.clean] else []) := by
  intro p hp
  have hres := (runControl_eq_zero_iff plans hne).mp h0 p hp
  rcases mirrorControl_cases p with ⟨_, h⟩ | ⟨n, _, _, _, ⟨_, h⟩ | ⟨_, _, h⟩ | ⟨hm, he, h⟩⟩ <;> rw [h] at hres ⊢
  · cases hres
  · cases hres
  · cases hres
  · simp only [RepoPlan.stageErrors, Bool.or_eq_false_iff] at he
    exact ⟨rfl, hm, he.1.1.1.2, he.1.1.2, he.1.2, he.2, n + 1, by simp⟩

/-- Over a queue the two counters never decrease and the obtained set never shrinks; and if the counters end where they began,
    every entry is ignorable or has a variant in the obtained set. -/
theorem foldl_downloadOne_clean (root : Path) (l : List DFile) (s : DState) :
    let s' := l.foldl (fun acc f => downloadOne root f acc) s
    s.book.missCount + s.book.errCount ≤ s'.book.missCount + s'.book.errCount ∧
    (∀ v ∈ Reported s, v ∈ Reported s') ∧
    (s'.book.missCount + s'.book.errCount = s.book.missCount + s.book.errCount →
      ∀ f ∈ l, (f.ignoreErrors = true ∨ f.ignoreMissing = true) ∨ ∃ v ∈ f.variants, v ∈ Reported s') := by
  induction l generalizing s with
  | nil => exact ⟨Nat.le_refl _, fun _ h => h, fun _ _ h => nomatch h⟩
  | cons g rest ih =>
    simp only [List.foldl_cons]
    obtain ⟨h1, h2, h3⟩ := ih (downloadOne root g s)
    cases downloadOne_outcome root g s with
    | obtained v hv hrep _ hcnt =>
      refine ⟨by omega, fun w hw => h2 w ((hrep w).mpr (.inl hw)), fun hc f hf => ?_⟩
      rcases List.mem_cons.mp hf with rfl | hf
      · exact .inr ⟨v, hv, h2 v ((hrep v).mpr (.inr rfl))⟩
      · exact h3 (by omega) f hf
    | nothing hrep hcnt =>
      refine ⟨by omega, fun w hw => h2 w (hrep ▸ hw), fun hc f hf => ?_⟩
      rcases List.mem_cons.mp hf with rfl | hf
      · rcases hcnt with ⟨_, hig⟩ | hcnt
        · exact .inl hig
        · omega
      · exact h3 (by omega) f hf

/-- **C01 step 2.** A stage whose downloader reports neither errors nor missing files has obtained a
    variant of every queued file that is neither optional nor under `ignore_errors` — whatever the
    upstream answered, whatever was on disk. (`add()` resets the counters, so they start at 0.) -/
theorem C01_clean_stage_all_obtained (root : Path) (q : List DFile) (s : DState)
    (h0 : s.book.errCount = 0 ∧ s.book.missCount = 0)
    (hclean : (download root q s).book.errCount = 0 ∧ (download root q s).book.missCount = 0) :
    ∀ f ∈ q, f.ignoreErrors = false → f.ignoreMissing = false →
      ∃ v ∈ f.variants, v ∈ Reported (download root q s) := by
  intro f hf hie him
  unfold download at hclean ⊢
  have := (foldl_downloadOne_clean root q.reverse s).2.2 (by omega) f (List.mem_reverse.mpr hf)
  rcases this with (h | h) | h
  · rw [hie] at h; cases h
  · rw [him] at h; cases h
  · exact h

/-- **C01 steps 2+3 combined.** In a clean stage over a queue with disjoint targets, every required file
    has an obtained variant whose every alias path holds a file of exactly the declared size. -/
theorem C01_clean_stage_sizes (root : Path) (q : List DFile) (s : DState) (hwf : s.fs.WF)
    (hb : s.book.downloaded = [] ∧ s.book.unmodified = [])
    (h0 : s.book.errCount = 0 ∧ s.book.missCount = 0)
    (hdisj : DisjointTargets q) (hshape : ∀ f ∈ q, f.checkSize = true → PoolShape f)
    (hclean : (download root q s).book.errCount = 0 ∧ (download root q s).book.missCount = 0) :
    ∀ f ∈ q, f.ignoreErrors = false → f.ignoreMissing = false →
      ∃ v ∈ f.variants, v ∈ Reported (download root q s) ∧ SoundAt root (download root q s).fs v := by
  intro f hf hie him
  obtain ⟨v, hv, hr⟩ := C01_clean_stage_all_obtained root q s h0 hclean f hf hie him
  refine ⟨v, hv, hr, ?_⟩
  apply C05_obtained_sound_partial root q s hwf hdisj hshape _ v hr
  intro w hw
  simp [Reported, hb.1, hb.2] at hw

end AptMirror
