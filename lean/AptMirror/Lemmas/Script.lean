import AptMirror.Model.Clean
namespace AptMirror
namespace Script
open Str

def run (l : Lex) (s : S) : Lex := s.foldl Lex.step l

theorem run_append (l : Lex) (a b : S) : run l (a ++ b) = run (run l a) b := by simp [run, List.foldl_append]
theorem run_cons (l : Lex) (c : Char) (s : S) : run l (c :: s) = run (l.step c) s := rfl
theorem run_nil (l : Lex) : run l [] = l := rfl

/-- inside single quotes, the escaped text appends exactly the original text -/
theorem run_escapeSq (s : S) (l : Lex) (hm : l.mode = .single) (hw : l.inWord = true) :
    run l (escapeSq s) = { l with cur := s.reverse ++ l.cur } := by
  induction s generalizing l with
  | nil => simp [escapeSq, run]
  | cons c cs ih =>
    unfold escapeSq
    by_cases hc : c = '\''
    · subst hc
      simp only [if_true]
      rw [run_append]
      have h1 : run l "'\"'\"'".toList = { l with cur := '\'' :: l.cur } := by
        obtain ⟨m, cur, iw, ws, cm⟩ := l
        simp only at hm hw; subst hm hw
        rfl
      rw [h1, ih { l with cur := '\'' :: l.cur } hm hw]
      simp
    · simp only [hc, if_false]
      rw [run_cons]
      have h1 : l.step c = { l with cur := c :: l.cur } := by
        unfold Lex.step; rw [hm]; simp [hc]
      rw [h1, ih { l with cur := c :: l.cur } hm hw]
      simp

theorem safeChar_plain (c : Char) (h : safeChar c = true) : c ≠ '\'' ∧ c ≠ '"' ∧ c ≠ '\n' ∧ c ≠ ' ' ∧ c ≠ '\t' := by
  refine ⟨?_, ?_, ?_, ?_, ?_⟩ <;> (intro hc; subst hc; revert h; decide)

theorem run_safe (s : S) (l : Lex) (hm : l.mode = .plain) (hs : s.all safeChar = true) (hne : s ≠ []) :
    run l s = { l with cur := s.reverse ++ l.cur, inWord := true } := by
  induction s generalizing l with
  | nil => exact absurd rfl hne
  | cons c cs ih =>
    simp only [List.all_cons, Bool.and_eq_true] at hs
    obtain ⟨h1, h2, h3, h4, h5⟩ := safeChar_plain c hs.1
    rw [run_cons]
    have hstep : l.step c = { l with cur := c :: l.cur, inWord := true } := by
      unfold Lex.step; rw [hm]; simp [h1, h2, h3, h4, h5]
    rw [hstep]
    cases cs with
    | nil => simp [run]
    | cons d ds =>
      rw [ih { l with cur := c :: l.cur, inWord := true } hm hs.2 (by simp)]
      simp

/-- **round trip of `shlex.quote` through the shell lexer**: from plain mode, the quoted form of `s` contributes
    exactly the characters of `s` to the current word and leaves the lexer in plain mode, inside a word -/
theorem run_quote (s : S) (l : Lex) (hm : l.mode = .plain) :
    run l (quote s) = { l with cur := s.reverse ++ l.cur, inWord := true } := by
  unfold quote
  by_cases he : s.isEmpty = true
  · have : s = [] := by simpa using he
    subst this
    obtain ⟨m, cur, iw, ws, cm⟩ := l
    simp only at hm; subst hm
    rfl
  · simp only [he, Bool.false_eq_true, if_false]
    by_cases hs : s.all safeChar = true
    · simp only [hs, if_true]
      exact run_safe s l hm hs (by intro h; subst h; simp at he)
    · simp only [hs, Bool.false_eq_true, if_false]
      have h1 : l.step '\'' = { l with mode := .single, inWord := true } := by
        unfold Lex.step; rw [hm]; rfl
      rw [run_append]
      have h2 : run l ('\'' :: escapeSq s) = { l with mode := .single, inWord := true, cur := s.reverse ++ l.cur } := by
        rw [run_cons, h1, run_escapeSq s _ rfl rfl]
      rw [h2]
      obtain ⟨m, cur, iw, ws, cm⟩ := l
      simp only at hm; subst hm
      rfl

/-- the lexer between commands, `cm` read so far -/
def idle (cm : List (List S)) : Lex := { Lex.init with cmds := cm }

/-- one line of the script: a prefix that leaves the lexer between words with the words `ws` finished (for the script: `rm -f `
    or `rm -r `), then a quoted name, then the newline -/
theorem run_line (pre : S) (ws : List S) (f : S) (cm : List (List S))
    (hpre : run (idle cm) pre = { idle cm with words := ws.reverse }) :
    run (idle cm) (pre ++ quote f ++ ['\n']) = idle ((ws ++ [f]) :: cm) := by
  rw [run_append, run_append, hpre, run_quote f _ rfl]
  simp [run, idle, Lex.init, Lex.step, Lex.endCmd, Lex.endWord]

theorem run_lines (pre : S) (ws : List S) (hpre : ∀ cm, run (idle cm) pre = { idle cm with words := ws.reverse }) (fs : List S)
    (cm : List (List S)) :
    run (idle cm) (fs.flatMap fun f => pre ++ quote f ++ ['\n']) = idle ((fs.map fun f => ws ++ [f]).reverse ++ cm) := by
  induction fs generalizing cm with
  | nil => rfl
  | cons f rest ih => rw [List.flatMap_cons, run_append, run_line pre ws f cm (hpre cm), ih]; simp

/-- the two command prefixes of the script -/
theorem run_rm (cm : List (List S)) :
    run (idle cm) "rm -f ".toList = { idle cm with words := ["rm".toList, "-f".toList].reverse } ∧
    run (idle cm) "rm -r ".toList = { idle cm with words := ["rm".toList, "-r".toList].reverse } := by
  constructor <;> simp [run, idle, Lex.init, Lex.step, Lex.endWord]

/-- what `lex` returns when the lexer ends between commands -/
theorem lex_of_idle {s : S} {cm : List (List S)} (h : run (idle []) s = idle cm) : lex s = some cm.reverse := by
  unfold lex
  rw [show s.foldl Lex.step Lex.init = idle cm from h]
  rfl

end Script
end AptMirror
