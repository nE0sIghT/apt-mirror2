import AptMirror.Model.Index
/-!
What `PackagesParser` and `SourcesParser` have in common, proved once: a line machine that reads the lines of a field into a
per-stanza state, and at a blank line flushes that state into the pool and resets it, computes the fold over stanzas of
"read the fields from the empty state, then flush".  The machine state `σ` may carry more than the meaning `α` of the fields
read so far (the Sources parser's section flag); `abs` forgets the difference.
-/
namespace AptMirror
namespace Index
open Str

/-- an invariant of the accumulator of a `foldlM` in `Except` that every successful step keeps holds of a successful result -/
theorem foldlM_ok_invariant {β γ ε : Type} (P : β → Prop) (f : β → γ → Except ε β)
    (hf : ∀ b c b', P b → f b c = .ok b' → P b') (l : List γ) (b b' : β) (hb : P b) (h : l.foldlM f b = .ok b') : P b' := by
  induction l generalizing b with
  | nil => cases h; exact hb
  | cons c l ih =>
    rw [List.foldlM_cons] at h
    cases hc : f b c with
    | error e => rw [hc] at h; cases h
    | ok b1 => rw [hc] at h; exact ih b1 (hf b c b1 hb hc) h

/-- the outcome `r` of the machine on some lines is what their meaning `x` says: the same error, or a state that stands for
    the meaning (`abs`) and the pool as it was -/
def Reads {σ α : Type} (abs : σ → α) (pool : List PoolFile) (r : Except Err (σ × List PoolFile)) (x : Except Err α) : Prop :=
  match x with
  | .ok a => ∃ s', r = .ok (s', pool) ∧ abs s' = a
  | .error e => r = .error e

/-- reading goes on: what the machine does next with the state and what the meaning says next agree -/
theorem Reads.bind_eq {σ α β : Type} {abs : σ → α} {pool : List PoolFile} {r : Except Err (σ × List PoolFile)} {x : Except Err α}
    (h : Reads abs pool r x) {k : σ × List PoolFile → Except Err β} {k' : α → Except Err β}
    (hk : ∀ s, k (s, pool) = k' (abs s)) : r >>= k = x >>= k' := by
  cases x with
  | error e => rw [show r = _ from h]; rfl
  | ok a => obtain ⟨s, rfl, rfl⟩ := h; exact hk s

theorem Reads.bind {σ α : Type} {abs : σ → α} {pool : List PoolFile} {r : Except Err (σ × List PoolFile)} {x : Except Err α}
    (h : Reads abs pool r x) {k : σ × List PoolFile → Except Err (σ × List PoolFile)} {k' : α → Except Err α}
    (hk : ∀ s, Reads abs pool (k (s, pool)) (k' (abs s))) : Reads abs pool (r >>= k) (x >>= k') := by
  cases x with
  | error e => rw [show r = _ from h]; rfl
  | ok a => obtain ⟨s, rfl, rfl⟩ := h; exact hk s

/-- what every flush keeps, the meaning of an index keeps (`read` is the meaning of the fields of one stanza) -/
theorem stanzas_invariant {α St : Type} {flush : α → List PoolFile → List PoolFile} (P : List PoolFile → Prop)
    (hflush : ∀ a pool, P pool → P (flush a pool)) (read : St → Except Err α) (sts : List St) (pool pool' : List PoolFile)
    (hP : P pool) (h : sts.foldlM (fun pool st => do let a ← read st; pure (flush a pool)) pool = .ok pool') : P pool' := by
  refine foldlM_ok_invariant P _ (fun p st p' hp hst => ?_) sts pool pool' hP h
  cases hr : read st with
  | error e => rw [hr] at hst; cases hst
  | ok a => rw [hr] at hst; cases hst; exact hflush a p hp

section StanzaMachine
variable {σ α F St : Type} {step : σ × List PoolFile → S → Except Err (σ × List PoolFile)} {init : σ} {abs : σ → α}
  {lines : F → List S} {OK : F → Prop} {spec : α → F → Except Err α} {flush : α → List PoolFile → List PoolFile}
  (fields : St → List F) (blanks : St → Nat)
  (hblank : ∀ s pool, step (s, pool) ['\n'] = .ok (init, flush (abs s) pool))
  (hinit : ∀ pool, flush (abs init) pool = pool)
  (hfield : ∀ f, OK f → ∀ s pool, Reads abs pool ((lines f).foldlM step (s, pool)) (spec (abs s) f))

include hfield in
theorem run_fields (fs : List F) (hok : ∀ f ∈ fs, OK f) (s : σ) (pool : List PoolFile) :
    Reads abs pool ((fs.flatMap lines).foldlM step (s, pool)) (fs.foldlM spec (abs s)) := by
  induction fs generalizing s with
  | nil => exact ⟨s, rfl, rfl⟩
  | cons f fs ih =>
    rw [List.flatMap_cons, List.foldlM_append, List.foldlM_cons]
    exact (hfield f (hok f List.mem_cons_self) s pool).bind (ih fun g hg => hok g (List.mem_cons_of_mem _ hg))

include hblank hinit in
/-- the first blank line flushes, the following ones find the empty state -/
theorem run_blanks (k : Nat) (s : σ) (pool : List PoolFile) :
    (List.replicate (k + 1) ['\n']).foldlM step (s, pool) = .ok (init, flush (abs s) pool) := by
  induction k generalizing s pool with
  | zero => simp only [List.replicate_succ, List.replicate_zero, List.foldlM_cons, List.foldlM_nil, hblank]; rfl
  | succ k ih =>
    rw [List.replicate_succ, List.foldlM_cons, hblank]
    exact (ih init _).trans (by rw [hinit])

include hblank hinit hfield in
theorem run_stanza (fs : List F) (hok : ∀ f ∈ fs, OK f) (k : Nat) (pool : List PoolFile) :
    (fs.flatMap lines ++ List.replicate (k + 1) ['\n']).foldlM step (init, pool) =
      (do let a ← fs.foldlM spec (abs init); pure (init, flush a pool)) := by
  rw [List.foldlM_append]
  exact (run_fields hfield fs hok init pool).bind_eq (run_blanks hblank hinit k · pool)

include hblank hinit hfield in
/-- **the line machine computes the stanza-level meaning**: stanzas separated by at least one blank line, any number of
    blank lines after the last (the machine adds one of its own) -/
theorem machine_refines (sts : List St) (last : St) (hb : ∀ st ∈ sts, 1 ≤ blanks st)
    (hok : ∀ st ∈ sts ++ [last], ∀ f ∈ fields st, OK f) (pool : List PoolFile) :
    (do let r ← ((sts ++ [last]).flatMap (fun st => (fields st).flatMap lines ++ List.replicate (blanks st) ['\n'])
          ++ [['\n']]).foldlM step (init, pool)
        pure r.2) =
      (sts ++ [last]).foldlM (fun pool st => do let a ← (fields st).foldlM spec (abs init); pure (flush a pool)) pool := by
  induction sts generalizing pool with
  | nil =>
    simp only [List.nil_append, List.flatMap_cons, List.flatMap_nil, List.append_nil, List.append_assoc,
      ← List.replicate_succ', List.foldlM_cons, List.foldlM_nil]
    rw [run_stanza hblank hinit hfield _ (hok last (by simp))]
    cases (fields last).foldlM spec (abs init) <;> rfl
  | cons st sts ih =>
    obtain ⟨k, hk⟩ : ∃ k, blanks st = k + 1 := ⟨blanks st - 1, by have := hb st List.mem_cons_self; omega⟩
    rw [List.cons_append, List.flatMap_cons, List.append_assoc, List.foldlM_append, List.foldlM_cons, hk,
      run_stanza hblank hinit hfield _ (hok st (by simp))]
    cases (fields st).foldlM spec (abs init) with
    | error e => rfl
    | ok a =>
      exact ih (fun x hx => hb x (List.mem_cons_of_mem _ hx)) (fun x hx => hok x (List.mem_cons_of_mem _ hx)) _

end StanzaMachine

end Index
end AptMirror
