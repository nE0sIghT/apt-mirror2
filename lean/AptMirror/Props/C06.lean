import AptMirror.Model.PathSafe
import AptMirror.Lemmas.Publish
/-!
# C06 — hostile repository data cannot make the tool touch files outside its directories

> Whatever bytes an upstream serves as Release, InRelease, Packages or Sources - path traversal in file
> names, directories or hash values, absolute paths, components that cancel each other, names aimed at
> sibling directories - every file or directory the run creates, modifies, links or deletes lies inside
> that repository's own skel directory, its own mirror directory, or var_path. Offending entries are
> skipped; the rest of the repository is still mirrored.

The lexical core.  After fixes 21eb5fb and 355dbb5 every path taken from repository data passes
`lexSafe` (and hash values pass `plainName`) before it is joined to *any* of the tool's directories.
`C06_lexsafe_confined` is the root-independent guarantee the original check lacked: for **every**
directory `root` (skel/<repo>, mirror/<repo>, …/dists/<codename>, with any names and any depth) the
resolved location of `root / p` is below `root`.  Together with `C12_only_own_urls`/frame lemmas (a
transfer only touches its own alias paths) this confines every mutation that derives from repository
data; mutations that do not (lock file, clean scripts, logs, the `*.apt_mirror_*` swap) use fixed
names below var_path / the mirror directory.  Symlink-free trees (S2).
-/
namespace AptMirror

theorem lexSafe_iff {p : Path} : lexSafe p = true ↔ isAbsPath p = false ∧ lexSafeGo 0 p = true := by
  simp [lexSafe]

theorem resolveGo_safe (s root : Path) (p : Path) (h : lexSafeGo s.length p = true) :
    ∃ t, resolveGo (s ++ root.reverse) p = root ++ t := by
  induction p generalizing s with
  | nil => exact ⟨s.reverse, by simp [resolveGo]⟩
  | cons c rest ih =>
    rw [lexSafeGo] at h
    rw [resolveGo]
    split at h
    · rw [if_pos ‹_›]
      cases s with
      | nil => cases h
      | cons a s' => simpa using ih s' (by simpa using h)
    · rw [if_neg ‹_›]
      simpa using ih (c :: s) (by simpa using h)

/-- **C06 (root independence).** A path accepted by the safety check resolves below *whatever* directory
    it is joined to. -/
theorem C06_lexsafe_confined (root p : Path) (h : lexSafe p = true) :
    ∃ t, resolveUnder root p = root ++ t := by
  simpa [resolveUnder] using resolveGo_safe [] root p (lexSafe_iff.mp h).2

/-- confinement in the vocabulary of the filesystem model: the resolved target is at or below `root` -/
theorem C06_lexsafe_isPrefix (root p : Path) (h : lexSafe p = true) :
    isPrefix root (resolveUnder root p) = true := by
  obtain ⟨t, ht⟩ := C06_lexsafe_confined root p h
  rw [ht]; exact isPrefix_append_self root t

/-! The closure properties are inductions along `lexSafeGo` itself: the two ways it can step, and the way it can fail. -/

theorem lexSafeGo_mono (d e : Nat) (p : Path) (hde : d ≤ e) (h : lexSafeGo d p = true) : lexSafeGo e p = true := by
  fun_induction lexSafeGo d p generalizing e with
  | case1 => rfl
  | case2 => cases h
  | case3 d rest hd ih => rw [lexSafeGo, if_pos rfl, if_neg (by omega)]; exact ih _ (by omega) h
  | case4 d c rest hc ih => rw [lexSafeGo, if_neg hc]; exact ih _ (by omega) h

theorem lexSafeGo_append (d : Nat) (a b : Path) (ha : lexSafeGo d a = true) (hb : lexSafeGo 0 b = true) :
    lexSafeGo d (a ++ b) = true := by
  fun_induction lexSafeGo d a with
  | case1 d => exact lexSafeGo_mono 0 d b (Nat.zero_le _) hb
  | case2 => cases ha
  | case3 d rest hd ih => rw [List.cons_append, lexSafeGo, if_pos rfl, if_neg hd]; exact ih ha
  | case4 d c rest hc ih => rw [List.cons_append, lexSafeGo, if_neg hc]; exact ih ha

/-- dropping the last component of an accepted path keeps it accepted (`Path.parent`) -/
theorem lexSafeGo_dropLast (d : Nat) (p : Path) (h : lexSafeGo d p = true) : lexSafeGo d p.dropLast = true := by
  fun_induction lexSafeGo d p with
  | case1 => rfl
  | case2 => cases h
  | case3 d rest hd ih =>
    cases rest with
    | nil => rfl
    | cons c2 r => rw [List.dropLast_cons_cons, lexSafeGo, if_pos rfl, if_neg hd]; exact ih h
  | case4 d c rest hc ih =>
    cases rest with
    | nil => rfl
    | cons c2 r => rw [List.dropLast_cons_cons, lexSafeGo, if_neg hc]; exact ih h

/-- **C06 (closed under join).** Joining two accepted paths (Sources `Directory` / file name; release
    directory / entry name) gives an accepted path. -/
theorem C06_join_safe (a b : Path) (ha : lexSafe a = true) (hb : lexSafe b = true) :
    lexSafe (joinPath a b) = true := by
  rw [lexSafe_iff] at ha hb ⊢
  rw [joinPath, if_neg (by simp [hb.1])]
  refine ⟨?_, lexSafeGo_append 0 a b ha.2 hb.2⟩
  cases a with
  | nil => exact hb.1
  | cons x xs => exact ha.1

/-- **C06 (by-hash aliases).** For an accepted index path and a hash value that is one plain file name,
    the by-hash alias `parent/by-hash/<Algo>/<hash>` is accepted as well. -/
theorem C06_byhash_safe (v : Variant) (a : Algo) (h : String) (hv : lexSafe (parentOf v.path) = true)
    (hh : plainName h = true) : lexSafe (v.hashedPath a h) = true := by
  have hne : h ≠ ".." := by
    simp only [plainName, Bool.and_eq_true, ne_eq, decide_eq_true_eq] at hh
    exact hh.1.1.2
  have h2 : lexSafe ["by-hash", a.value, h] = true := by
    cases a <;> simp [lexSafe, isAbsPath, lexSafeGo, Algo.value, hne] <;> decide
  have := C06_join_safe (parentOf v.path) ["by-hash", a.value, h] hv h2
  rwa [joinPath, if_neg (by simp [(lexSafe_iff.mp h2).1])] at this

theorem C06_parent_safe (p : Path) (h : lexSafe p = true) : lexSafe (parentOf p) = true := by
  rw [lexSafe_iff] at h ⊢
  refine ⟨?_, lexSafeGo_dropLast 0 p h.2⟩
  -- the parent of a path with two or more parts starts with the same part
  match p, h.1 with
  | [], _ | [_], _ => rfl
  | _ :: _ :: _, h => exact h

/-- **C06 (rejections).** Absolute paths and paths that start by climbing are never accepted; the four
    attack shapes of the property are rejected. -/
theorem C06_rejects_abs (p : Path) : lexSafe ("/" :: p) = false := by simp [lexSafe, isAbsPath]
theorem C06_rejects_climb (p : Path) : lexSafe (".." :: p) = false := by simp [lexSafe, lexSafeGo]
/-- components that cancel each other and then climb (`x/y/../../../p`) are rejected for every tail -/
theorem C06_rejects_cancel (x y : String) (p : Path) (hx : x ≠ "..") (hy : y ≠ "..") :
    lexSafe (x :: y :: ".." :: ".." :: ".." :: p) = false := by
  simp [lexSafe, lexSafeGo, hx, hy]

/-! ### the code before the fixes: concrete witnesses (regression theorems) -/

/-- the original check: resolve against ONE root and test the prefix -/
def legacySafe (root p : Path) : Bool := isPrefix root (resolveUnder root (joinPath [] p)) && !isAbsPath p

/-- F-C06b: a name that spells the local directory names passes the legacy check against
    skel/h/r but lands outside mirror-side directories with differently named parents -/
theorem C06_legacy_root_dependent :
    legacySafe ["a", "skel", "h", "r"] ["..", "..", "..", "skel", "h", "r", "x"] = true ∧
    isPrefix ["b", "data", "mirror", "h", "r"]
      (resolveUnder ["b", "data", "mirror", "h", "r"] ["..", "..", "..", "skel", "h", "r", "x"]) = false ∧
    lexSafe ["..", "..", "..", "skel", "h", "r", "x"] = false := by decide

/-! ### non-vacuity -/
example : lexSafe ["b", "..", "c"] = true ∧ lexSafe ["pool", "main", "a", "a_1.deb"] = true ∧
    resolveUnder ["m"] ["b", "..", "c"] = ["m", "c"] ∧ plainName "0123abcdef" = true ∧ plainName "../x" = false := by decide

end AptMirror
