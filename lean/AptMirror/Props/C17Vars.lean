import AptMirror.Model.Vars
import AptMirror.Lemmas.Except
/-
  C17, the `$variable` clause: theorems about `Config._substitute_variables` (Model/Vars.lean).

  * `C17_vars_resolved`       a successful evaluation leaves no `$` in any setting
  * `C17_vars_keys`           it neither adds, drops nor reorders settings
  * `C17_vars_literal_kept`   a setting without `$` keeps its value
  * `C17_vars_idempotent`     evaluating the result again changes nothing
  * `C17_vars_direct`         a setting whose references all name settings without `$` gets exactly its one-step
                              substitution against the table as written - whatever the order of the table
  * `C17_vars_direct_order`   ... hence the same value for two tables that define the same settings in different orders
  * `C17_vars_forward`        a forward-ordered table (every reference names a setting further up or a `$`-free one, as in the
                              shipped defaults) is evaluated to its top-to-bottom evaluation `fwd` ...
  * `C17_vars_forward_late_bound`  ... whose values are the late-bound ones: each template substituted against the final table
  * `C17_vars_order_quirk`    (counterexample, replayed on the implementation) for references nested two deep the result CAN
                              depend on the order of the `set` lines: textual re-substitution re-reads `$y` + `foo` as `$yfoo`
-/
namespace AptMirror
namespace Vars
open Str

@[simp] theorem hasDollar_append (a b : S) : hasDollar (a ++ b) = (hasDollar a || hasDollar b) := by
  simp [hasDollar]

@[simp] theorem hasDollar_cons (c : Char) (s : S) : hasDollar (c :: s) = (decide (c = '$') || hasDollar s) := by
  simp [hasDollar, eq_comm]

/-- a value without `$` is its own substitution -/
theorem subst_noDollar (env : Env) : ∀ s : S, hasDollar s = false → subst env s = .ok s
  | [], _ => rfl
  | c :: cs, h => by
    simp only [hasDollar_cons, Bool.or_eq_false_iff, decide_eq_false_iff_not] at h
    simp only [subst, run, if_neg h.1]
    rw [← subst, subst_noDollar env cs h.2]; rfl

/-! ### locality -/

/-- `y` reproduces every `$`-free result of `x` -/
def LitLE (x y : Except Err S) : Prop := ∀ w, x = .ok w → hasDollar w = false → y = .ok w

theorem LitLE.rfl {x : Except Err S} : LitLE x x := fun _ h _ => h

/-- `g v r` contains `v` and `r` -/
theorem LitLE.bind_map {lx ly x y : Except Err S} {g : S → S → S} (hl : LitLE lx ly) (h : LitLE x y)
    (hg : ∀ v r, hasDollar (g v r) = false → hasDollar v = false ∧ hasDollar r = false) :
    LitLE (lx.bind fun v => x.map (g v)) (ly.bind fun v => y.map (g v)) := by
  intro w hw hd
  obtain ⟨v, hv, hw⟩ := Except.bind_eq_ok.mp hw
  obtain ⟨r, hr, rfl⟩ := Except.map_eq_ok.mp hw
  rw [hl v hv (hg v r hd).1, h r hr (hg v r hd).2]; rfl

theorem LitLE.map {x y : Except Err S} {f : S → S} (h : LitLE x y) (hf : ∀ r, hasDollar (f r) = false → hasDollar r = false) :
    LitLE (x.map f) (y.map f) := by
  intro w hw hd
  obtain ⟨r, hr, rfl⟩ := Except.map_eq_ok.mp hw
  rw [h r hr (hf r hd)]; rfl

/-- `cur` knows every `$`-free setting of `env` with the same value -/
def Agree (env cur : Env) : Prop := ∀ name, LitLE (lookup env name) (lookup cur name)

/-- locality: a substitution whose result has no `$` only consulted `$`-free settings (every value it looked up is a piece of
    the result), so it comes out the same against any table that agrees on those -/
theorem run_le {env cur : Env} (ha : Agree env cur) : ∀ (s : S) (st : St), LitLE (run env st s) (run cur st s)
  | [], .name acc => ha acc
  | [], .text | [], .dollar | [], .brace _ => LitLE.rfl
  | c :: cs, .text => by
    simp only [run]
    split
    · exact run_le ha cs _
    · exact (run_le ha cs _).map (by simp)
  | c :: cs, .dollar => by
    simp only [run]
    split
    · -- `$$` leaves a `$` in the result
      intro w hw hd
      obtain ⟨r, _, rfl⟩ := Except.map_eq_ok.mp hw
      simp at hd
    split
    · exact run_le ha cs _
    split
    · exact run_le ha cs _
    · exact LitLE.rfl
  | c :: cs, .name acc => by
    simp only [run]
    split
    · exact run_le ha cs _
    split
    · exact (ha acc).bind_map (run_le ha cs _) (by simp)
    · exact (ha acc).bind_map (g := fun v r => v ++ c :: r) (run_le ha cs _) (by simp +contextual)
  | c :: cs, .brace acc => by
    simp only [run]
    split
    · split
      · exact LitLE.rfl
      · exact (ha acc).bind_map (run_le ha cs _) (by simp)
    by_cases hi : (if acc.isEmpty then isIdStart c else isIdChar c) = true
    · simp only [hi, if_true]; exact run_le ha cs _
    · simp only [hi]; exact LitLE.rfl

theorem subst_agree {env cur : Env} (ha : Agree env cur) {v w : S} (h : subst env v = .ok w) (hw : hasDollar w = false) :
    subst cur v = .ok w := run_le ha v .text w h hw

/-! ### one pass over the table -/

/-- what a pass may do to one entry: the key stays, a `$`-free value stays -/
def R (a b : S × S) : Prop := a.1 = b.1 ∧ (hasDollar a.2 = false → b.2 = a.2)

/-- entrywise `R` (core Lean has no `List.Forall₂`) -/
inductive Rel2 : Env → Env → Prop
  | nil : Rel2 [] []
  | cons {a b : S × S} {l l' : Env} : R a b → Rel2 l l' → Rel2 (a :: l) (b :: l')

theorem Rel2.refl : ∀ l : Env, Rel2 l l
  | [] => .nil
  | _ :: l => .cons ⟨rfl, fun _ => rfl⟩ (refl l)

theorem Rel2.trans : ∀ {l1 l2 l3 : Env}, Rel2 l1 l2 → Rel2 l2 l3 → Rel2 l1 l3
  | _, _, _, .nil, .nil => .nil
  | _, _, _, .cons h1 t1, .cons h2 t2 =>
    .cons ⟨h1.1.trans h2.1, fun h => by rw [h2.2 (by rw [h1.2 h]; exact h), h1.2 h]⟩ (t1.trans t2)

theorem Rel2.append {a a' b b' : Env} (h1 : Rel2 a a') (h2 : Rel2 b b') : Rel2 (a ++ b) (a' ++ b') := by
  induction h1 with
  | nil => exact h2
  | cons h _ ih => exact .cons h ih

theorem Rel2.keys {l l' : Env} (h : Rel2 l l') : l'.map (·.1) = l.map (·.1) := by
  induction h with
  | nil => rfl
  | cons h _ ih => simp [ih, h.1]

theorem Rel2.mem {l l' : Env} (h : Rel2 l l') {x : S × S} (hx : x ∈ l) (hd : hasDollar x.2 = false) : x ∈ l' := by
  induction h with
  | nil => cases hx
  | @cons a b _ _ hab _ ih =>
    rcases List.mem_cons.mp hx with rfl | hx
    · rw [show b = x from Prod.ext hab.1.symm (hab.2 hd)]; exact List.mem_cons_self
    · exact List.mem_cons_of_mem _ (ih hx)

theorem lookup_cons (a : S × S) (l : Env) (k : S) : lookup (a :: l) k = if a.1 = k then .ok a.2 else lookup l k := by
  by_cases h : a.1 = k <;> simp [lookup, h]

theorem Rel2.agree {l l' : Env} (h : Rel2 l l') : Agree l l' := by
  intro name u hl hu
  induction h with
  | nil => exact hl
  | @cons a b _ _ hab _ ih =>
    rw [lookup_cons] at hl ⊢
    rw [← hab.1]
    split at hl <;> rename_i hk
    · cases hl; rw [if_pos hk, hab.2 hu]
    · rw [if_neg hk]; exact ih hl

/-- the `if hasDollar v` in a pass is a short cut: a `$`-free value is its own substitution -/
theorem pass_cons (done rest : Env) (k v : S) (f : Bool) :
    pass done ((k, v) :: rest) f =
      (subst (done ++ (k, v) :: rest) v).bind fun v' => pass (done ++ [(k, v')]) rest (f || hasDollar v) := by
  cases hd : hasDollar v
  · rw [subst_noDollar _ v hd]; simp [pass, hd, Except.bind]
  · simp [pass, hd]

/-- a pass keeps keys and `$`-free values, reports whether it met a `$`, and gives every entry its substitution against some table
    between the one it started from and the one it ends with -/
theorem pass_spec : ∀ (todo done : Env) (f : Bool) (e : Env) (f' : Bool), pass done todo f = .ok (e, f') →
    f' = (f || todo.any (hasDollar ·.2)) ∧ ∃ todo', e = done ++ todo' ∧ Rel2 todo todo' ∧
      ∀ x ∈ todo, ∃ w T, (x.1, w) ∈ todo' ∧ Rel2 (done ++ todo) T ∧ Rel2 T e ∧ subst T x.2 = .ok w
  | [], done, f, e, f', h => by
    cases h
    exact ⟨by simp, [], by simp, .nil, fun _ hx => nomatch hx⟩
  | (k, v) :: rest, done, f, e, f', h => by
    rw [pass_cons] at h
    obtain ⟨v', hs, h⟩ := Except.bind_eq_ok.mp h
    obtain ⟨rfl, t', rfl, hr, hpt⟩ := pass_spec rest _ _ _ _ h
    have hkv : R (k, v) (k, v') := ⟨rfl, fun hd => by rw [subst_noDollar _ v hd] at hs; cases hs; rfl⟩
    have hstep : Rel2 (done ++ (k, v) :: rest) (done ++ [(k, v')] ++ rest) := by
      simpa using (Rel2.refl done).append (.cons hkv (.refl rest))
    refine ⟨by simp [Bool.or_assoc], (k, v') :: t', by simp, .cons hkv hr, fun x hx => ?_⟩
    rcases List.mem_cons.mp hx with rfl | hx
    · exact ⟨v', _, List.mem_cons_self, .refl _, hstep.trans ((Rel2.refl _).append hr), hs⟩
    · obtain ⟨w, T, hw, h1, h2, h3⟩ := hpt x hx
      exact ⟨w, T, List.mem_cons_of_mem _ hw, hstep.trans h1, h2, h3⟩

theorem round_spec {env e : Env} {f : Bool} (h : round env = .ok (e, f)) :
    f = env.any (hasDollar ·.2) ∧ Rel2 env e ∧
      ∀ x ∈ env, ∃ w T, (x.1, w) ∈ e ∧ Rel2 env T ∧ Rel2 T e ∧ subst T x.2 = .ok w := by
  obtain ⟨hf, t', rfl, hr, hpt⟩ := pass_spec env [] false e f h
  exact ⟨by simpa using hf, hr, hpt⟩

/-- a pass over a table without `$` changes nothing and finds nothing -/
theorem round_noDollar {env : Env} (h : ∀ x ∈ env, hasDollar x.2 = false) : round env = .ok (env, false) := by
  suffices ∀ (todo done : Env), (∀ x ∈ todo, hasDollar x.2 = false) → pass done todo false = .ok (done ++ todo, false) from
    this env [] h
  intro todo
  induction todo with
  | nil => simp [pass]
  | cons a rest ih =>
    intro done h
    have hv := h a List.mem_cons_self
    rw [pass_cons, subst_noDollar _ _ hv, Except.bind, hv, Bool.or_false, ih _ fun x hx => h x (List.mem_cons_of_mem _ hx)]
    simp

/-! ### the loop -/

/-- a successful evaluation is a first round, then rounds that keep keys and `$`-free values, up to a table without `$` -/
theorem loop_ok : ∀ (n : Nat) (env e : Env), loop n env = .ok e →
    Rel2 env e ∧ (∀ x ∈ e, hasDollar x.2 = false) ∧ ∃ e1 f, round env = .ok (e1, f) ∧ Rel2 e1 e
  | 0, env, e, h => by
    obtain ⟨_, _, h⟩ := Except.bind_eq_ok.mp h
    cases h
  | n + 1, env, e, h => by
    obtain ⟨⟨e1, f⟩, hr, h⟩ := Except.bind_eq_ok.mp h
    obtain ⟨hf, h1, -⟩ := round_spec hr
    cases f with
    | true =>
      obtain ⟨h2, hres, -⟩ := loop_ok n e1 e h
      exact ⟨h1.trans h2, hres, e1, true, hr, h2⟩
    | false =>
      cases h
      -- nothing found: the table was `$`-free, and the round left it as it was
      have hres : ∀ x ∈ env, hasDollar x.2 = false := by simpa using hf.symm
      rw [round_noDollar hres] at hr
      cases hr
      exact ⟨h1, hres, _, false, round_noDollar hres, h1⟩

/-- a round that yields a table without `$` is the last but one at most -/
theorem loop_of_round {n : Nat} {env e : Env} {f : Bool} (h : round env = .ok (e, f)) (hres : ∀ x ∈ e, hasDollar x.2 = false) :
    loop (n + 2) env = .ok e := by
  cases f <;> simp [loop, h, round_noDollar hres, Except.bind]

/-! ### the property theorems -/

/-- a successful evaluation leaves no `$` in any setting -/
theorem C17_vars_resolved (env e : Env) (h : substituteVariables env = .ok e) : ∀ x ∈ e, hasDollar x.2 = false :=
  (loop_ok 15 env e h).2.1

/-- settings are neither added, dropped nor reordered -/
theorem C17_vars_keys (env e : Env) (h : substituteVariables env = .ok e) : e.map (·.1) = env.map (·.1) :=
  (loop_ok 15 env e h).1.keys

/-- a setting without `$` keeps its value -/
theorem C17_vars_literal_kept (env e : Env) (h : substituteVariables env = .ok e) (x : S × S) (hx : x ∈ env)
    (hd : hasDollar x.2 = false) : x ∈ e :=
  (loop_ok 15 env e h).1.mem hx hd

/-- a setting whose references all name `$`-free settings ends up with exactly its one-step substitution against the table as
    written (e.g. `mirror_path = $base_path/mirror` with a literal `base_path`) - independently of where in the table either
    of them stands -/
theorem C17_vars_direct (env e : Env) (h : substituteVariables env = .ok e) (x : S × S) (hx : x ∈ env) (w : S)
    (hw : subst env x.2 = .ok w) (hwd : hasDollar w = false) : (x.1, w) ∈ e := by
  obtain ⟨-, -, e1, f, hr, h1⟩ := loop_ok 15 env e h
  -- the first round substitutes against a table that still has every `$`-free setting of `env`
  obtain ⟨w', T, hm, hT, -, hs⟩ := (round_spec hr).2.2 x hx
  rw [subst_agree hT.agree hw hwd] at hs
  cases hs
  exact h1.mem hm hwd

/-- order independence for such settings: two tables that define the same settings (same value for every name), in any order,
    give them the same final value -/
theorem C17_vars_direct_order (env env' e e' : Env) (hsame : ∀ n, lookup env n = lookup env' n)
    (h : substituteVariables env = .ok e) (h' : substituteVariables env' = .ok e')
    (k v : S) (hx : (k, v) ∈ env) (hx' : (k, v) ∈ env') (w : S)
    (hw : subst env v = .ok w) (hwd : hasDollar w = false) : (k, w) ∈ e ∧ (k, w) ∈ e' :=
  ⟨C17_vars_direct env e h (k, v) hx w hw hwd,
   C17_vars_direct env' e' h' (k, v) hx' w (subst_agree (fun n => hsame n ▸ LitLE.rfl) hw hwd) hwd⟩

/-- evaluating an evaluated table again changes nothing (the result is a fixed point) -/
theorem C17_vars_idempotent (env e : Env) (h : substituteVariables env = .ok e) : substituteVariables e = .ok e :=
  have hres := C17_vars_resolved env e h
  loop_of_round (round_noDollar hres) hres

/-! ### forward-ordered tables: one pass, late-bound values -/

/-- the entries without `$` -/
def litOnly (env : Env) : Env := env.filter fun x => !hasDollar x.2

/-- specification for *forward-ordered* tables (every reference names a setting further up, or one without `$` - the shipped
    default table and the usual overrides are of this kind): evaluate top to bottom; a reference sees the evaluated settings above
    and the `$`-free settings below; every value must come out `$`-free -/
def fwd : Env → Env → Option Env
  | done, [] => some done
  | done, (k, v) :: rest =>
    match subst (done ++ litOnly ((k, v) :: rest)) v with
    | .ok w => if hasDollar w then none else fwd (done ++ [(k, w)]) rest
    | .error _ => none

theorem lookup_of_mem : ∀ {l : Env}, (l.map (·.1)).Nodup → ∀ {x}, x ∈ l → lookup l x.1 = .ok x.2
  | a :: l, hn, x, hx => by
    rw [List.map_cons, List.nodup_cons] at hn
    rw [lookup_cons]
    rcases List.mem_cons.mp hx with rfl | hx
    · rw [if_pos rfl]
    · rw [if_neg fun h : a.1 = x.1 => hn.1 (h ▸ List.mem_map_of_mem hx), lookup_of_mem hn.2 hx]

theorem mem_of_lookup : ∀ {l : Env} {n u : S}, lookup l n = .ok u → (n, u) ∈ l
  | [], _, _, h => nomatch h
  | a :: l, n, u, h => by
    rw [lookup_cons] at h
    split at h
    · cases h; rename_i hk; subst hk; exact List.mem_cons_self
    · exact List.mem_cons_of_mem _ (mem_of_lookup h)

/-- a table with unique keys agrees with every table it contains -/
theorem agree_of_subset {small big : Env} (hn : (big.map (·.1)).Nodup) (hsub : ∀ x ∈ small, x ∈ big) : Agree small big :=
  fun _ _ hl _ => lookup_of_mem hn (hsub _ (mem_of_lookup hl))

/-- when the forward evaluation succeeds, one pass of the implementation computes exactly it, and no `$` is left -/
theorem pass_fwd : ∀ (todo done : Env) (f : Bool) (e : Env), ((done ++ todo).map (·.1)).Nodup → fwd done todo = some e →
    (∃ f', pass done todo f = .ok (e, f')) ∧ ((∀ x ∈ done, hasDollar x.2 = false) → ∀ x ∈ e, hasDollar x.2 = false)
  | [], done, f, e, _, h => by cases h; exact ⟨⟨f, rfl⟩, id⟩
  | (k, v) :: rest, done, f, e, hn, h => by
    simp only [fwd] at h
    split at h
    · rename_i w hs
      split at h
      · cases h
      · rename_i hwd
        simp only [Bool.not_eq_true] at hwd
        -- the table of the pass has unique keys and contains the one `fwd` substitutes against
        have hbig : subst (done ++ (k, v) :: rest) v = .ok w :=
          subst_agree (agree_of_subset hn fun x hx => by
            rcases List.mem_append.mp hx with hx | hx
            · exact List.mem_append_left _ hx
            · exact List.mem_append_right _ (List.mem_filter.mp hx).1) hs hwd
        obtain ⟨hp, hres⟩ := pass_fwd rest (done ++ [(k, w)]) (f || hasDollar v) e (by simpa using hn) h
        rw [pass_cons, hbig]
        refine ⟨hp, fun hd => hres fun x hx => ?_⟩
        rcases List.mem_append.mp hx with hx | hx
        · exact hd x hx
        · cases List.mem_singleton.mp hx; exact hwd
    · cases h

/-- **forward-ordered tables are evaluated to their forward evaluation** (in one substituting pass plus the confirming one) -/
theorem C17_vars_forward (env e : Env) (hn : (env.map (·.1)).Nodup) (h : fwd [] env = some e) :
    substituteVariables env = .ok e := by
  obtain ⟨⟨f', hp⟩, hres⟩ := pass_fwd env [] false e hn h
  exact loop_of_round hp (hres fun _ hx => nomatch hx)

/-- a round that leaves no `$` gives every setting its **late-bound** value: its template as it stood before the round,
    substituted against the table after it -/
theorem round_late_bound {env e : Env} {f : Bool} (h : round env = .ok (e, f)) (hres : ∀ x ∈ e, hasDollar x.2 = false) :
    ∀ x ∈ env, ∃ w, (x.1, w) ∈ e ∧ subst e x.2 = .ok w := fun x hx =>
  have ⟨w, _, hm, _, hT, hs⟩ := (round_spec h).2.2 x hx
  ⟨w, hm, subst_agree hT.agree hs (hres _ hm)⟩

/-- **late binding for forward-ordered tables**: the final value of every setting is its template as written, substituted
    against the final table ("every reference resolved against the final settings") -/
theorem C17_vars_forward_late_bound (env e : Env) (hn : (env.map (·.1)).Nodup) (h : fwd [] env = some e) :
    substituteVariables env = .ok e ∧ ∀ x ∈ env, ∃ w, (x.1, w) ∈ e ∧ subst e x.2 = .ok w :=
  have ⟨⟨_, hp⟩, hres⟩ := pass_fwd env [] false e hn h
  ⟨C17_vars_forward env e hn h, round_late_bound hp (hres fun _ hx => nomatch hx)⟩

/-! ### non-vacuity and the order quirk (concrete tables, evaluated by the kernel) -/

instance instDecEqExcept {ε α : Type} [DecidableEq ε] [DecidableEq α] : DecidableEq (Except ε α)
  | .ok a, .ok b => if h : a = b then isTrue (by rw [h]) else isFalse (fun h' => by cases h'; exact h rfl)
  | .error a, .error b => if h : a = b then isTrue (by rw [h]) else isFalse (fun h' => by cases h'; exact h rfl)
  | .ok _, .error _ => isFalse (fun h => by cases h)
  | .error _, .ok _ => isFalse (fun h => by cases h)

-- `String.toList_ofList` first: the kernel is slow to decode `"…".toList` of a literal (superlinear in its length);
-- the rewrite puts the character list in its place without evaluating anything.
private def s (x : String) : S := x.toList
private def tbl (l : List (String × String)) : Env := l.map fun p => (s p.1, s p.2)

/-- the default table's chain `cleanscript = $var_path/clean.sh`, `var_path = $base_path/var`, literal `base_path` evaluates -/
example : substituteVariables (tbl [("base_path", "/var/spool/apt-mirror"), ("var_path", "$base_path/var"),
      ("cleanscript", "$var_path/clean.sh"), ("nthreads", "20")]) =
    .ok (tbl [("base_path", "/var/spool/apt-mirror"), ("var_path", "/var/spool/apt-mirror/var"),
      ("cleanscript", "/var/spool/apt-mirror/var/clean.sh"), ("nthreads", "20")]) := by
  simp only [tbl, s, List.map_cons, List.map_nil]
  repeat rw [String.toList_ofList]
  decide +kernel

/-- the hypotheses of `C17_vars_direct` are met by `var_path` in that table -/
example : subst (tbl [("base_path", "/b"), ("var_path", "${base_path}/var")]) (s "${base_path}/var") = .ok (s "/b/var")
    ∧ hasDollar (s "/b/var") = false := by
  simp only [tbl, s, List.map_cons, List.map_nil]
  repeat rw [String.toList_ofList]
  decide +kernel

/-- the shipped default chain is forward-ordered: `fwd` succeeds on it (so `C17_vars_forward_late_bound` applies) -/
example : fwd [] (tbl [("base_path", "/var/spool/apt-mirror"), ("mirror_path", "$base_path/mirror"), ("var_path", "$base_path/var"),
      ("cleanscript", "$var_path/clean.sh"), ("postmirror_script", "${var_path}/postmirror.sh"), ("nthreads", "20")]) =
    some (tbl [("base_path", "/var/spool/apt-mirror"), ("mirror_path", "/var/spool/apt-mirror/mirror"), ("var_path", "/var/spool/apt-mirror/var"),
      ("cleanscript", "/var/spool/apt-mirror/var/clean.sh"), ("postmirror_script", "/var/spool/apt-mirror/var/postmirror.sh"),
      ("nthreads", "20")]) := by
  simp only [tbl, s, List.map_cons, List.map_nil]
  repeat rw [String.toList_ofList]
  decide +kernel

/-- ... and it is not forward-ordered when a setting refers to one further down that itself needs evaluation -/
example : fwd [] (tbl [("cleanscript", "$var_path/clean.sh"), ("var_path", "$base_path/var"), ("base_path", "/b")]) = none := by
  simp only [tbl, s, List.map_cons, List.map_nil]
  repeat rw [String.toList_ofList]
  decide +kernel

/-- errors: an unset name, a lone `$`, a reference cycle -/
example : substituteVariables (tbl [("a", "$nope")]) = .error .key ∧ substituteVariables (tbl [("a", "100$")]) = .error .value
    ∧ substituteVariables (tbl [("a", "$b"), ("b", "$a")]) = .error .value := by
  simp only [tbl, s, List.map_cons, List.map_nil]
  repeat rw [String.toList_ofList]
  decide +kernel

/-- COUNTEREXAMPLE to order independence beyond `C17_vars_direct`: the same four settings in two orders give `z` two different
    values - after `${x}foo` has become `$yfoo`, the next round reads it as a reference to `yfoo`.  The implementation does the
    same (replayed by the correspondence check, harness/props/c17.py `VARS_CORPUS`). -/
theorem C17_vars_order_quirk :
    substituteVariables (tbl [("x", "$y"), ("z", "${x}foo"), ("y", "A"), ("yfoo", "B")]) =
      .ok (tbl [("x", "A"), ("z", "Afoo"), ("y", "A"), ("yfoo", "B")]) ∧
    substituteVariables (tbl [("z", "${x}foo"), ("x", "$y"), ("y", "A"), ("yfoo", "B")]) =
      .ok (tbl [("z", "B"), ("x", "A"), ("y", "A"), ("yfoo", "B")]) := by
  simp only [tbl, s, List.map_cons, List.map_nil]
  repeat rw [String.toList_ofList]
  decide +kernel

end Vars
end AptMirror
