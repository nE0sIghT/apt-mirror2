import AptMirror.Model.Download
/-
  Model of apt_mirror/download/protocols/http.py (decision logic only) and apt_mirror/download/proxy.py.

  * `classify`     — HTTPDownloader.stream: status / headers -> DownloadResponse, exception -> DownloadResponse
  * `transportFor` — which httpx transport serves a request (mount precedence) and what it was built with
  * `Proxy.forScheme`, `quote`/`unquote` — proxy URL construction with percent-encoded credentials

  Not modelled: httpx / h11 / h2 / ssl wire behaviour (exercised by the loopback harness).
-/
namespace AptMirror
namespace Http

/-- what httpx hands to `stream()` for one request -/
inductive Wire
  | response (status : Nat) (contentLength : Option Nat) (lastModified : Option Int)
      -- header values after `int(...)` / `parsedate_to_datetime(...)`; `none` = header absent or unparsable
  | protocolError (serverDisconnected : Bool)   -- httpx.RemoteProtocolError; flag: "Server disconnected" in the message
  | otherException                              -- ConnectError, ReadTimeout, TooManyRedirects, ssl errors, ...
deriving DecidableEq, Repr

/-- the DownloadResponse record -/
structure DResp where
  missing : Bool
  error : Bool
  retry : Bool
  size : Option Nat
  date : Option Int
deriving DecidableEq, Repr

inductive Mode | legacy | strict
deriving DecidableEq, Repr

/-- `HTTPDownloader.stream`.  `legacy` is the code as it stands: a RemoteProtocolError whose message does *not* contain
    "Server disconnected" is reported as `retry` (no error); `strict` reports every protocol failure as an error. -/
def classify (m : Mode) : Wire → DResp
  | .response st cl lm =>
    { missing := decide (400 ≤ st ∧ st < 500), error := decide (500 ≤ st ∧ st < 600), retry := false, size := cl, date := lm }
  | .protocolError disc =>
    match m with
    | .legacy => { missing := false, error := disc, retry := !disc, size := none, date := none }
    | .strict => { missing := false, error := true, retry := false, size := none, date := none }
  | .otherException => { missing := false, error := true, retry := false, size := none, date := none }

/-- how `download_file` reads the record (branch order: retry, missing, error, else body) as an L1 response;
    `body`/`abort`/`tag` describe what the stream then delivers -/
def toResp (r : DResp) (body : Nat) (abort : Bool) (tag : Nat) : Resp :=
  if r.retry then .retry
  else if r.missing then .missing
  else if r.error then .error
  else .ok r.size r.date body abort tag

/-! ### transport selection -/

inductive Verify | system | bundle (path : String) | off
deriving DecidableEq, Repr

inductive Cert | single (cert : String) | pair (cert key : String)
deriving DecidableEq, Repr

structure ProxyCfg where
  useProxy : Bool
  httpProxy : String
  httpsProxy : String
deriving DecidableEq, Repr

structure Settings where
  noCheck : Bool
  caBundle : String          -- "" = unset
  certificate : String       -- "" = unset
  privateKey : String        -- "" = unset
  proxy : ProxyCfg
  http2Disable : Bool
deriving DecidableEq, Repr

structure Transport where
  verify : Verify
  cert : Option Cert
  proxy : Option String      -- the proxy setting this transport routes through
  http2 : Bool
deriving DecidableEq, Repr

/-- `Config.verify_ca_certificate` -/
def Settings.verify (s : Settings) : Verify :=
  if s.noCheck then .off else if s.caBundle ≠ "" then .bundle s.caBundle else .system

/-- the `client_certificate` value computed in `__post_init__` -/
def Settings.clientCert (s : Settings) : Option Cert :=
  if s.certificate ≠ "" then
    (if s.privateKey ≠ "" then some (.pair s.certificate s.privateKey) else some (.single s.certificate))
  else none

/-- `Proxy.for_scheme` (before `url_for_proxy`) -/
def ProxyCfg.forScheme (p : ProxyCfg) (scheme : String) : Option String :=
  if !p.useProxy then none
  else if scheme = "http" ∧ p.httpProxy ≠ "" then some p.httpProxy
  else if scheme = "https" ∧ p.httpsProxy ≠ "" then some p.httpsProxy
  else none

/-- the transports mounted for "http://" and "https://"; `withCert` = the fixed code -/
def mounts (withCert : Bool) (s : Settings) : List (String × Transport) :=
  ["http", "https"].map fun sch =>
    (sch, { verify := s.verify, cert := if withCert then s.clientCert else none,
            proxy := s.proxy.forScheme sch, http2 := !s.http2Disable })

/-- the `transport=` argument of `httpx.AsyncClient` -/
def defaultTransport (s : Settings) : Transport :=
  { verify := s.verify, cert := s.clientCert, proxy := none, http2 := !s.http2Disable }

/-- httpx: a request is served by the first mounted transport whose pattern matches its URL, else by the default one -/
def select (ms : List (String × Transport)) (dflt : Transport) (scheme : String) : Transport :=
  match ms.find? (fun m => m.1 = scheme) with
  | some m => m.2
  | none => dflt

def transportFor (withCert : Bool) (s : Settings) (scheme : String) : Transport :=
  select (mounts withCert s) (defaultTransport s) scheme

/-! ### percent-encoding of proxy credentials (`urllib.parse.quote(x, safe="")`, bytes level) -/

def isUnreserved (b : Nat) : Bool :=
  (65 ≤ b ∧ b ≤ 90) ∨ (97 ≤ b ∧ b ≤ 122) ∨ (48 ≤ b ∧ b ≤ 57) ∨ b = 95 ∨ b = 46 ∨ b = 45 ∨ b = 126

/-- upper-case hex digit of a nibble, as a byte -/
def hexDigit (n : Nat) : Nat := if n < 10 then 48 + n else 55 + n

def unhex (b : Nat) : Option Nat :=
  if 48 ≤ b ∧ b ≤ 57 then some (b - 48)
  else if 65 ≤ b ∧ b ≤ 70 then some (b - 55)
  else if 97 ≤ b ∧ b ≤ 102 then some (b - 87)
  else none

/-- `quote(bytes, safe="")` -/
def quote : List Nat → List Nat
  | [] => []
  | b :: rest => if isUnreserved b then b :: quote rest else 37 :: hexDigit (b / 16) :: hexDigit (b % 16) :: quote rest

/-- `unquote_to_bytes` -/
def unquote : List Nat → List Nat
  | [] => []
  | [b] => [b]
  | [b, c] => [b, c]
  | b :: h :: l :: rest =>
    if b = 37 then
      match unhex h, unhex l with
      | some a, some c => (a * 16 + c) :: unquote rest
      | _, _ => 37 :: unquote (h :: l :: rest)
    else b :: unquote (h :: l :: rest)

/-- `Proxy.url_for_proxy` on the pieces: (scheme, netloc, tail) of the configured proxy and optional credentials -/
def userinfo (user password : List Nat) : List Nat :=
  if user = [] then [] else if password = [] then quote user ++ [64] else quote user ++ [58] ++ quote password ++ [64]

end Http
end AptMirror
