import AptMirror.Model.Download
/-!
The loop nest of `download_file`: `attempt` inside `tryLoop` inside `tryAliases` inside `tryVariants`, then `downloadFile`,
`downloadOne` and the queue.  `attempt_cases` is the case analysis of the loop body, `tryVariants_induct` the induction over the
three loops (an invariant of the passes that do not accept, a post-condition of the pass that does), `downloadOne_lift` the
passage to a file for a relation that every pass maintains (a queue is a fold: `foldl_invariant`).  A property of transfers is proved by
showing it for the five cases of one pass.
-/
namespace AptMirror

/-- The five ways a pass through the loop body ends, each with the tests of the code that lead to it (so this is also the
    inversion lemma of `attempt`): a failed pass leaves the state of the request - `again`, or `stop` for a file whose failure
    is ignored; if the answer was a body at all, its announced length was wrong - or that state with a torso under the requested
    name; an accepting pass links every name of the variant to the file under the requested name, which is either the one that
    was there (`unmodified`) or the body just written (`transferred`). -/
theorem attempt_cases (root : Path) (f : DFile) (v : Variant) (src : Path) (s : DState) (err : Bool) {P : Attempt → Prop}
    (again : ∀ r s1 e, s.request src = (r, s1) →
      (∀ a d b ab t, r = .ok a d b ab t → v.size > 0 ∧ sizeTruthy a ∧ a ≠ some v.size) → P (.again s1 e))
    (stop : ∀ r s1, s.request src = (r, s1) → f.ignoreErrors = true ∨ f.ignoreMissing = true →
      (∀ a d b ab t, r = .ok a d b ab t → v.size > 0 ∧ sizeTruthy a ∧ a ≠ some v.size) → P (.stop s1))
    (torso : ∀ a d b ab t s1, s.request src = (.ok a d b ab t, s1) →
      ¬(v.size > 0 ∧ sizeTruthy a ∧ a ≠ some v.size) → ¬(sizeTruthy a ∧ !needUpdate s1.fs (root ++ src) a d) →
      ab = true ∨ (v.size > 0 ∧ v.size ≠ b) →
      P (.again { s1 with fs := s1.fs.rewrite (root ++ src) b t } true))
    (unmodified : ∀ a d b ab t s1, s.request src = (.ok a d b ab t, s1) →
      ¬(v.size > 0 ∧ sizeTruthy a ∧ a ≠ some v.size) → sizeTruthy a = true → needUpdate s1.fs (root ++ src) a d = false →
      P (.accept { s1 with
        fs := linkOrCopy s1.fs (root ++ src) (v.allPaths.map (root ++ ·)),
        book := { s1.book with umCount := s1.book.umCount + 1, umSize := s1.book.umSize + a.getD 0,
                               downloaded := s1.book.downloaded ++ [v],
                               missing := listDiff s1.book.missing v.allPaths } }))
    (transferred : ∀ a d b ab t s1, s.request src = (.ok a d b ab t, s1) →
      ¬(v.size > 0 ∧ sizeTruthy a ∧ a ≠ some v.size) → ¬(sizeTruthy a ∧ !needUpdate s1.fs (root ++ src) a d) →
      ab = false → ¬(v.size > 0 ∧ v.size ≠ b) →
      P (.accept { s1 with
        fs := linkOrCopy (utimeOpt (s1.fs.rewrite (root ++ src) b t) (root ++ src) d) (root ++ src)
                (v.allPaths.map (root ++ ·)),
        book := { s1.book with dlCount := s1.book.dlCount + 1, dlSize := s1.book.dlSize + b,
                               downloaded := s1.book.downloaded ++ [v],
                               missing := listDiff s1.book.missing v.allPaths } })) :
    P (attempt root f v src s err) := by
  fun_cases attempt root f v src s err
  · exact again _ _ _ ‹_› (by intro _ _ _ _ _ h; cases h)
  · exact stop _ _ ‹_› ‹_› (by intro _ _ _ _ _ h; cases h)
  · exact again _ _ _ ‹_› (by intro _ _ _ _ _ h; cases h)
  · exact stop _ _ ‹_› (.inl ‹_›) (by intro _ _ _ _ _ h; cases h)
  · exact again _ _ _ ‹_› (by intro _ _ _ _ _ h; cases h)
  · exact stop _ _ ‹_› (.inl ‹_›) (by intro _ _ _ _ _ h; cases h; assumption)
  · exact again _ _ _ ‹_› (by intro _ _ _ _ _ h; cases h; assumption)
  · rename_i a d b ab t s1 hreq hsz hun
    exact unmodified a d b ab t s1 hreq hsz hun.1 (by simpa using hun.2)
  · exact torso _ _ _ _ _ _ ‹_› ‹_› ‹_› (.inl rfl)
  · exact torso _ _ _ _ _ _ ‹_› ‹_› ‹_› (.inr ‹_›)
  · rename_i a d b ab t s1 hreq hsz hun hab hb
    exact transferred a d b ab t s1 hreq hsz hun (by simpa using hab) hb

/-! ### induction over the three loops -/

/-- a property of the outcome of a pass: `A` after acceptance, `R` otherwise -/
def Attempt.Post (R A : DState → Prop) : Attempt → Prop
  | .accept s' => A s'
  | .again s' _ => R s'
  | .stop s' => R s'

/-- a property of the outcome of a loop: `A` after acceptance, `R` after exhaustion -/
def TryPost (R A : DState → Prop) : TryResult × DState × Bool → Prop
  | (.accepted, s', _) => A s'
  | (.exhausted, s', _) => R s'

theorem Attempt.Post.mono {R A R' A' : DState → Prop} (hR : ∀ x, R x → R' x) (hA : ∀ x, A x → A' x) :
    ∀ {r}, Attempt.Post R A r → Attempt.Post R' A' r
  | .accept _, h => hA _ h
  | .again _ _, h => hR _ h
  | .stop _, h => hR _ h

theorem TryPost.mono {R A R' A' : DState → Prop} (hR : ∀ x, R x → R' x) (hA : ∀ x, A x → A' x) :
    ∀ {r}, TryPost R A r → TryPost R' A' r
  | (.accepted, _, _), h => hA _ h
  | (.exhausted, _, _), h => hR _ h

section Induct
variable {root : Path} {f : DFile} {I : DState → Prop}

theorem tryLoop_induct {v : Variant} {src : Path} {Q : DState → Prop}
    (step : ∀ s err, I s → (attempt root f v src s err).Post I Q) :
    ∀ n s err, I s → TryPost I Q (tryLoop root f v src n s err)
  | 0, _, _, hs => hs
  | n + 1, s, err, hs => by
    have h := step s err hs
    unfold tryLoop
    split <;> rename_i heq <;> rw [heq] at h
    · exact h
    · exact h
    · exact tryLoop_induct step n _ _ h

theorem tryAliases_induct {v : Variant} {Q : Path → DState → Prop} (srcs : List Path)
    (step : ∀ src ∈ srcs, ∀ s err, I s → (attempt root f v src s err).Post I (Q src)) (s : DState) (err : Bool) (hs : I s) :
    TryPost I (fun s' => ∃ src ∈ srcs, Q src s') (tryAliases root f v srcs s err) := by
  induction srcs generalizing s err with
  | nil => exact hs
  | cons src rest ih =>
    have h := tryLoop_induct (step src List.mem_cons_self) 10 s err hs
    unfold tryAliases
    split <;> rename_i heq <;> rw [heq] at h
    · exact ⟨src, List.mem_cons_self, h⟩
    · exact (ih (fun x hx => step x (List.mem_cons_of_mem _ hx)) _ _ h).mono (fun _ h => h)
        fun _ ⟨x, hx, hq⟩ => ⟨x, List.mem_cons_of_mem _ hx, hq⟩

/-- **Induction principle of the transfer loops.** If every pass started in `I` keeps `I` when it does not accept and establishes
    `Q` of its variant and URL when it does, then `tryVariants` started in `I` ends in `I` when it gives up and in `Q` of the accepted
    variant and URL when it does not. -/
theorem tryVariants_induct {Q : Variant → Path → DState → Prop} (vs : List Variant)
    (step : ∀ v ∈ vs, ∀ src ∈ v.allPaths, ∀ s err, I s → (attempt root f v src s err).Post I (Q v src))
    (s : DState) (err : Bool) (hs : I s) :
    TryPost I (fun s' => ∃ v ∈ vs, ∃ src ∈ v.allPaths, Q v src s') (tryVariants root f vs s err) := by
  induction vs generalizing s err with
  | nil => exact hs
  | cons v rest ih =>
    have h := tryAliases_induct v.allPaths (step v List.mem_cons_self) s err hs
    unfold tryVariants
    split <;> rename_i heq <;> rw [heq] at h
    · exact ⟨v, List.mem_cons_self, h⟩
    · exact (ih (fun x hx => step x (List.mem_cons_of_mem _ hx)) _ _ h).mono (fun _ h => h)
        fun _ ⟨x, hx, hq⟩ => ⟨x, List.mem_cons_of_mem _ hx, hq⟩

end Induct

/-! ### ... and, for a relation that every pass maintains whatever its outcome, over a file -/

/-- what `download_file` does after the loops is book-keeping -/
theorem downloadFile_eq (root : Path) (f : DFile) (s : DState) :
    ∃ bk, downloadFile root f s = { (tryVariants root f f.iterVariants s false).2.1 with book := bk } := by
  fun_cases downloadFile root f s <;> rw [‹tryVariants root f f.iterVariants s false = _›] <;> exact ⟨_, rfl⟩

theorem sizeShortcut_eq_find? (root : Path) (f : DFile) (fs : FS) (vs : List Variant) :
    sizeShortcut root f fs vs = vs.find? fun v => fs.sizeAt (root ++ v.sourcePath) = some f.size := by
  induction vs with
  | nil => rfl
  | cons v rest ih => unfold sizeShortcut; rw [List.find?_cons, ih]; split <;> simp [*]

/-- `download()` for one file: the `check_size` short-cut, which touches nothing but the book, or `download_file` -/
theorem downloadOne_cases (root : Path) (f : DFile) (s : DState) :
    (∃ v ∈ f.iterVariants, f.checkSize = true ∧ s.fs.sizeAt (root ++ v.sourcePath) = some f.size ∧
      downloadOne root f s = { s with book := { s.book with umCount := s.book.umCount + 1, umSize := s.book.umSize + f.size,
                                                            unmodified := s.book.unmodified ++ [v] } }) ∨
    ((f.checkSize = true → ∀ v ∈ f.iterVariants, s.fs.sizeAt (root ++ v.sourcePath) ≠ some f.size) ∧
      downloadOne root f s = downloadFile root f s) := by
  unfold downloadOne
  cases hc : f.checkSize with
  | false => exact .inr ⟨(fun h => nomatch h), rfl⟩
  | true =>
    rw [if_pos rfl, sizeShortcut_eq_find?]
    cases hf : f.iterVariants.find? _ with
    | some v => exact .inl ⟨v, List.mem_of_find?_eq_some hf, rfl, by simpa using List.find?_some hf, rfl⟩
    | none => exact .inr ⟨fun _ v hv => by simpa using List.find?_eq_none.mp hf v hv, rfl⟩

theorem downloadOne_lift {root : Path} {R : DState → DState → Prop}
    (refl : ∀ s, R s s) (trans : ∀ a b c, R a b → R b c → R a c) (book : ∀ s bk, R s { s with book := bk }) (f : DFile)
    (step : ∀ v ∈ f.iterVariants, ∀ src ∈ v.allPaths, ∀ s err, R s (attempt root f v src s err).state) (s : DState) :
    R s (downloadOne root f s) := by
  rcases downloadOne_cases root f s with ⟨_, _, _, _, h⟩ | ⟨_, h⟩ <;> rw [h]
  · exact book s _
  · obtain ⟨bk, h⟩ := downloadFile_eq root f s
    rw [h]
    refine trans _ _ _ ?_ (book _ bk)
    have := tryVariants_induct (I := R s) (Q := fun _ _ => R s) f.iterVariants
      (fun v hv src hs sk err hI => by
        have := trans _ _ _ hI (step v hv src hs sk err)
        generalize attempt root f v src sk err = r at this
        cases r <;> exact this) s false (refl s)
    generalize tryVariants root f f.iterVariants s false = r at this
    obtain ⟨_ | _, s', e'⟩ := r
    · obtain ⟨_, _, _, _, h⟩ := this; exact h
    · exact this

end AptMirror
