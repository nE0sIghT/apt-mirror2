import AptMirror.Lemmas.Download
import AptMirror.Lemmas.List
namespace AptMirror

def FS.WF (fs : FS) : Prop := ∀ p i, fs.ino p = some i → i < fs.next

/-- `fs'` differs from `fs` only at the names in `T` and at inodes allocated after `fs` -/
structure Frame (T : List Path) (fs fs' : FS) : Prop where
  ino : ∀ q, q ∉ T → fs'.ino q = fs.ino q
  dat : ∀ i, i < fs.next → fs'.dat i = fs.dat i
  next : fs.next ≤ fs'.next
  wf : fs.WF → fs'.WF

theorem Frame.refl (T : List Path) (fs : FS) : Frame T fs fs := ⟨fun _ _ => rfl, fun _ _ => rfl, Nat.le_refl _, id⟩

theorem Frame.trans {T : List Path} {a b c : FS} (h1 : Frame T a b) (h2 : Frame T b c) : Frame T a c :=
  ⟨fun q hq => (h2.ino q hq).trans (h1.ino q hq),
   fun i hi => (h2.dat i (Nat.lt_of_lt_of_le hi h1.next)).trans (h1.dat i hi),
   Nat.le_trans h1.next h2.next, fun h => h2.wf (h1.wf h)⟩

theorem Frame.mono {T T' : List Path} {a b : FS} (h : Frame T a b) (hs : ∀ q, q ∈ T → q ∈ T') : Frame T' a b :=
  ⟨fun q hq => h.ino q (fun hm => hq (hs q hm)), h.dat, h.next, h.wf⟩

/-- a name outside the frame shows the same file -/
theorem Frame.dataAt {T : List Path} {a b : FS} (h : Frame T a b) (hwf : a.WF) (q : Path) (hq : q ∉ T) :
    b.dataAt q = a.dataAt q :=
  FS.dataAt_of_ino_eq (h.ino q hq) fun i hi => h.dat i (hwf q i hi)

theorem Frame.sizeAt {T : List Path} {a b : FS} (h : Frame T a b) (hwf : a.WF) (q : Path) (hq : q ∉ T) :
    b.sizeAt q = a.sizeAt q := by
  rw [FS.sizeAt_eq, FS.sizeAt_eq, h.dataAt hwf q hq]

theorem frame_linkOrCopy (fs : FS) (src : Path) (ts : List Path)  : Frame ts fs (linkOrCopy fs src ts) := by
  refine ⟨fun q hq => linkOrCopy_frame fs src ts q hq, fun i _ => by rw [linkOrCopy_dat],
    Nat.le_of_eq (linkOrCopy_next fs src ts).symm, fun hwf p i hp => ?_⟩
  rw [linkOrCopy_next]
  rw [linkOrCopy_ino] at hp
  split at hp <;> exact hwf _ _ hp

/-- writing a file afresh and dating it: only the name and the new inode are involved -/
theorem frame_rewrite_utime (fs : FS) (p : Path) (n tag : Nat) (d : Option Int) :
    Frame [p] fs (utimeOpt (fs.rewrite p n tag) p d) := by
  rw [FS.rewrite_eq_addFile]
  refine ⟨fun q hq => ?_, fun i hi => ?_, ?_, fun hwf q i hq => ?_⟩
  · rw [utimeOpt_ino, FS.addFile_ino_other _ _ _ _ (by simpa using hq)]
  · rcases utimeOpt_dat (fs.addFile p ⟨n, none, tag⟩) p d i with h | ⟨h, _⟩
    · rw [h, FS.addFile_dat_old _ _ _ _ (Nat.ne_of_lt hi)]
    · rw [FS.addFile_ino_self] at h; cases h; omega
  · rw [utimeOpt_next, FS.addFile_next]; omega
  · rw [utimeOpt_next, FS.addFile_next]
    rw [utimeOpt_ino] at hq
    by_cases h : q = p
    · subst h; rw [FS.addFile_ino_self] at hq; cases hq; omega
    · rw [FS.addFile_ino_other _ _ _ _ h] at hq
      exact Nat.lt_succ_of_lt (hwf _ _ hq)

theorem frame_rewrite (fs : FS) (p : Path) (n tag : Nat) : Frame [p] fs (fs.rewrite p n tag) :=
  frame_rewrite_utime fs p n tag none

/-- all names a file's transfer may touch -/
def DFile.targets (root : Path) (f : DFile) : List Path := f.allPaths.map (root ++ ·)

theorem mem_iterVariants {f : DFile} {v : Variant} (h : v ∈ f.iterVariants) : v ∈ f.variants := by
  unfold DFile.iterVariants at h
  rw [List.mem_filterMap] at h
  obtain ⟨c, _, hc⟩ := h
  unfold DFile.variantOf at hc
  exact List.mem_of_find?_eq_some hc

theorem allPaths_subset {f : DFile} {v : Variant} (h : v ∈ f.variants) {p : Path} (hp : p ∈ v.allPaths) : p ∈ f.allPaths := by
  unfold DFile.allPaths
  exact List.mem_flatMap.mpr ⟨v, h, hp⟩

theorem not_mem_targets {root : Path} {f : DFile} {p : Path} (h : p ∉ f.allPaths) : root ++ p ∉ f.targets root := by
  intro hm
  obtain ⟨q, hq, heq⟩ := List.mem_map.mp hm
  exact h (List.append_cancel_left heq ▸ hq)

/-- a pass for a name of a variant of `f` rebinds only names of `f` and writes only into inodes it allocates -/
theorem attempt_frame (root : Path) (f : DFile) (v : Variant) (hv : v ∈ f.variants) (src : Path) (hs : src ∈ v.allPaths)
    (s : DState) (err : Bool) : Frame (f.targets root) s.fs (attempt root f v src s err).state.fs := by
  have hsrc : ∀ q, q ∈ [root ++ src] → q ∈ f.targets root := fun q hq => by
    rw [List.mem_singleton.mp hq]; exact mem_map_root (allPaths_subset hv hs)
  have hall : ∀ q, q ∈ v.allPaths.map (root ++ ·) → q ∈ f.targets root := fun q hq => by
    obtain ⟨p, hp, rfl⟩ := List.mem_map.mp hq; exact mem_map_root (allPaths_subset hv hp)
  have hfs : ∀ {r s1}, s.request src = (r, s1) → s1.fs = s.fs := fun h => by have := request_fs s src; rwa [h] at this
  refine attempt_cases root f v src s err (P := fun r => Frame (f.targets root) s.fs r.state.fs) ?_ ?_ ?_ ?_ ?_
  · intro r s1 e h _; rw [← hfs h]; exact Frame.refl _ _
  · intro r s1 h _ _; rw [← hfs h]; exact Frame.refl _ _
  · intro a d b ab t s1 h _ _ _; rw [← hfs h]; exact (frame_rewrite _ _ _ _).mono hsrc
  · intro a d b ab t s1 h _ _ _; rw [← hfs h]; exact (frame_linkOrCopy _ _ _).mono hall
  · intro a d b ab t s1 h _ _ _ _; rw [← hfs h]
    exact ((frame_rewrite_utime _ _ _ _ _).mono hsrc).trans ((frame_linkOrCopy _ _ _).mono hall)

theorem downloadOne_frame (root : Path) (f : DFile) (s : DState) :
    Frame (f.targets root) s.fs (downloadOne root f s).fs :=
  downloadOne_lift (R := fun s s' => Frame (f.targets root) s.fs s'.fs) (fun _ => Frame.refl _ _) (fun _ _ _ => Frame.trans)
    (fun _ _ => Frame.refl _ _) f (fun v hv src hs => attempt_frame root f v (mem_iterVariants hv) src hs) s

/-- the transfers of a queue rebind only the names of its files and write only into inodes they allocate -/
theorem queue_frame (root : Path) (l : List DFile) (s : DState) :
    Frame (l.flatMap (DFile.targets root)) s.fs (l.foldl (fun acc f => downloadOne root f acc) s).fs :=
  foldl_invariant (P := fun s' => Frame (l.flatMap (DFile.targets root)) s.fs s'.fs)
    (fun f hf s' h => h.trans ((downloadOne_frame root f s').mono fun _ hq => List.mem_flatMap.mpr ⟨f, hf, hq⟩)) (Frame.refl _ _)

end AptMirror
