import AptMirror.Lemmas.Frame
/-!
# C05 — a file counts as obtained only if it is complete with the declared size

> A file is reported as downloaded or unmodified - and therefore published, kept by cleaning and
> not counted as an error - only if a file of exactly the size declared by its
> Release/Packages/Sources entry exists at its target path at that moment (when no size is
> declared, only if a transfer ended without error). A response that announces a different
> length, delivers fewer or more bytes, aborts mid-stream or is an HTTP error is never accepted;
> once retries and fallbacks are exhausted the file is reported missing or failed and is
> excluded from the obtained set.

Model: `Model/Download.lean` (`attempt`, `tryLoop`, `downloadFile`, `download`), quantified over
every root, file, variant list, oracle (all response scripts, including reconnect signals),
pre-existing filesystem and book.  Interleavings of concurrent transfers are handled by C15
(commutation of transfers with disjoint targets); the statements here are about the sequential
semantics and, for queues, need `DisjointTargets` — the hypothesis the proof forces, and the
point at which the real code was found to violate the property (finding F-C05a, DESIGN §7).
-/
namespace AptMirror

/-- the variants a downloader reports as obtained -/
def Reported (s : DState) : List Variant := s.book.downloaded ++ s.book.unmodified

/-- "a file of exactly the declared size exists at every one of its target paths" -/
def SoundAt (root : Path) (fs : FS) (v : Variant) : Prop :=
  0 < v.size → ∀ p ∈ v.allPaths, fs.sizeAt (root ++ p) = some v.size

/-- two queue entries never share a target path -/
def DisjointTargets (q : List DFile) : Prop :=
  q.Pairwise fun f g => ∀ p, p ∈ f.allPaths → p ∉ g.allPaths

/-- shape of the files produced from Packages/Sources entries (`check_size` files): no by-hash
    aliases, and every variant carries the entry's size or is the size-0 placeholder -/
def PoolShape (f : DFile) : Prop :=
  ∀ v ∈ f.variants, v.useByHash = false ∧ (v.size = f.size ∨ v.size = 0)

/-- **C05 (single transfer).** Whatever the upstream answers, `download_file` ends in exactly one of
    three ways: a variant of the file is reported and at that moment every alias path of it holds a
    file of the declared size, all aliases being one inode; or the file is ignorable and nothing is
    reported; or nothing is reported, every alias path of every variant is in `missing_sources`
    and the missing/error counter is incremented. -/
theorem C05_file_outcome (root : Path) (f : DFile) (s : DState) :
    FileOutcome root f s (downloadFile root f s) :=
  downloadFile_outcome root f s

/-- **C05 (acceptance is sound).** If one pass through the attempt loop reports variant `v`, then in the
    resulting state every alias of `v` has the declared size (when one is declared), exists, and all
    aliases are hard links of one inode. -/
theorem C05_attempt_sound (root : Path) (f : DFile) (v : Variant) (src : Path) (s s' : DState) (err : Bool)
    (h : attempt root f v src s err = .accept s') : AcceptedOK root v s s' := by
  have := attempt_spec root f v src s err
  rw [h] at this; exact this

/-- **C05 (rejects).** A response that is an HTTP error, a 404, announces a length different from the
    declared one, delivers a body whose length differs from the declared one, or aborts mid-stream is
    never accepted by that attempt. -/
theorem C05_rejects (root : Path) (f : DFile) (v : Variant) (src : Path) (s : DState) (err : Bool)
    (r : Resp) (s1 : DState) (hreq : s.request src = (r, s1))
    (hbad : r = .retry ∨ r = .missing ∨ r = .error ∨
      (∃ a d b ab t, r = .ok a d b ab t ∧ 0 < v.size ∧
        ((sizeTruthy a = true ∧ a ≠ some v.size) ∨
         ((sizeTruthy a = false ∨ needUpdate s1.fs (root ++ src) a d = true) ∧ (ab = true ∨ b ≠ v.size))))) :
    ∀ s', attempt root f v src s err ≠ .accept s' := by
  intro s'
  -- the two accepting cases record the tests they passed; each kind of bad answer fails one of them
  refine attempt_cases root f v src s err (P := fun r => r ≠ .accept s') ?_ ?_ ?_ ?_ ?_
  · intro _ _ _ _ _ h; cases h
  · intro _ _ _ _ _ h; cases h
  · intro _ _ _ _ _ _ _ _ _ _ h; cases h
  · intro a d b ab t s1' hreq' hlen htru hnu _
    cases hreq.symm.trans hreq'
    rcases hbad with ⟨⟨⟩⟩ | ⟨⟨⟩⟩ | ⟨⟨⟩⟩ | ⟨_, _, _, _, _, ⟨⟩, hv, ⟨h1, h2⟩ | ⟨h1 | h1, _⟩⟩
    · exact hlen ⟨hv, h1, h2⟩
    · rw [htru] at h1; cases h1
    · rw [hnu] at h1; cases h1
  · intro a d b ab t s1' hreq' hlen _ hab hsz _
    cases hreq.symm.trans hreq'
    rcases hbad with ⟨⟨⟩⟩ | ⟨⟨⟩⟩ | ⟨⟨⟩⟩ | ⟨_, _, _, _, _, ⟨⟩, hv, ⟨h1, h2⟩ | ⟨_, h2 | h2⟩⟩
    · exact hlen ⟨hv, h1, h2⟩
    · rw [hab] at h2; cases h2
    · exact hsz ⟨hv, fun e => h2 e.symm⟩

theorem poolShape_paths {f : DFile} (hf : PoolShape f) {v : Variant} (hv : v ∈ f.variants) :
    v.sourcePath = v.path ∧ v.allPaths = [v.path] := by
  have := (hf v hv).1
  simp [Variant.sourcePath, Variant.allPaths, this]

/-- What one queue step does to the obtained set: it adds one variant of its file, of the declared size on every alias (for the
    `check_size` short-cut: if the file has the shape of a pool file) and with both counters as they were; or it adds nothing, and
    then the file is ignorable or a counter went up. -/
inductive StepOutcome (root : Path) (f : DFile) (s s' : DState) : Prop
  | obtained (v : Variant) (hv : v ∈ f.variants) (hrep : ∀ w, w ∈ Reported s' ↔ w ∈ Reported s ∨ w = v)
      (hsound : (f.checkSize = true → PoolShape f) → SoundAt root s'.fs v)
      (hcnt : s'.book.missCount + s'.book.errCount = s.book.missCount + s.book.errCount)
  | nothing (hrep : Reported s' = Reported s)
      (hcnt : (s'.book.missCount + s'.book.errCount = s.book.missCount + s.book.errCount ∧
                (f.ignoreErrors = true ∨ f.ignoreMissing = true)) ∨
              s'.book.missCount + s'.book.errCount = s.book.missCount + s.book.errCount + 1)

theorem downloadOne_outcome (root : Path) (f : DFile) (s : DState) : StepOutcome root f s (downloadOne root f s) := by
  rcases downloadOne_cases root f s with ⟨v, hv, hcs, hsz, h⟩ | ⟨_, h⟩ <;> rw [h]
  · -- the short-cut: `v` has no aliases and the declared size, which is the size found
    have hvf := mem_iterVariants hv
    refine .obtained v hvf (fun w => by simp [Reported, or_assoc]) (fun hshape hpos p hp => ?_) rfl
    obtain ⟨hsp, hap⟩ := poolShape_paths (hshape hcs) hvf
    rw [hap, List.mem_singleton] at hp
    rcases ((hshape hcs) v hvf).2 with hs | hs
    · rw [hp, ← hsp, hs]; exact hsz
    · omega
  · cases downloadFile_outcome root f s with
    | accepted v hv h =>
      refine .obtained v (mem_iterVariants hv) (fun w => ?_) (fun _ => h.size) (by rw [h.noErr.1, h.noErr.2])
      simp only [Reported, h.downloaded, h.unmodified, List.mem_append, List.mem_singleton]
      exact ⟨fun h => by rcases h with (h | h) | h <;> simp [h], fun h => by rcases h with (h | h) | h <;> simp [h]⟩
    | ignored h hig => exact .nothing (by simp [Reported, h.downloaded, h.unmodified]) (.inl ⟨by rw [h.noErr.1, h.noErr.2], hig⟩)
    | failed hd hu _ hc => exact .nothing (by simp [Reported, hd, hu]) (.inr hc)

theorem soundAt_frame {root : Path} {T : List Path} {a b : FS} (hfr : Frame T a b) (hwf : a.WF) {v : Variant}
    (hs : SoundAt root a v) (hout : ∀ p ∈ v.allPaths, root ++ p ∉ T) : SoundAt root b v := by
  intro hpos p hp
  rw [hfr.sizeAt hwf _ (hout p hp)]
  exact hs hpos p hp

theorem foldl_downloadOne_sound (root : Path) (l : List DFile) (s : DState) (hwf : s.fs.WF)
    (hdisj : l.Pairwise fun f g => ∀ p, p ∈ f.allPaths → p ∉ g.allPaths)
    (hshape : ∀ f ∈ l, f.checkSize = true → PoolShape f)
    (hold : ∀ v ∈ Reported s, SoundAt root s.fs v ∧ ∀ f ∈ l, ∀ p ∈ v.allPaths, p ∉ f.allPaths) :
    ∀ v ∈ Reported (l.foldl (fun acc f => downloadOne root f acc) s),
      SoundAt root (l.foldl (fun acc f => downloadOne root f acc) s).fs v := by
  induction l generalizing s with
  | nil => intro v hv; exact (hold v hv).1
  | cons f rest ih =>
    simp only [List.foldl_cons]
    obtain ⟨hd1, hd2⟩ := List.pairwise_cons.mp hdisj
    have hfr := downloadOne_frame root f s
    -- what was sound stays sound: `f` does not own its paths
    have hkeep : ∀ v ∈ Reported s, SoundAt root (downloadOne root f s).fs v ∧ ∀ g ∈ rest, ∀ p ∈ v.allPaths, p ∉ g.allPaths :=
      fun v hv => ⟨soundAt_frame hfr hwf (hold v hv).1 fun p hp => not_mem_targets ((hold v hv).2 f List.mem_cons_self p hp),
        fun g hg => (hold v hv).2 g (List.mem_cons_of_mem _ hg)⟩
    apply ih (downloadOne root f s) (hfr.wf hwf) hd2 (fun g hg => hshape g (List.mem_cons_of_mem _ hg))
    intro w hw
    cases downloadOne_outcome root f s with
    | nothing hrep _ => rw [hrep] at hw; exact hkeep w hw
    | obtained v hvf hrep hsnd _ =>
      rcases (hrep w).mp hw with hw | rfl
      · exact hkeep w hw
      · exact ⟨hsnd (hshape f List.mem_cons_self), fun g hg p hp => hd1 g hg p (allPaths_subset hvf hp)⟩

/-- **C05 (queue, partial: sequential semantics + `DisjointTargets`).** After `download()` has
    processed any queue whose entries have pairwise disjoint target paths, every variant in the
    obtained set — reported now or earlier — has a file of exactly its declared size at every one of
    its alias paths, for every oracle, every pre-existing tree and every initial book that is itself
    sound and does not overlap the queue. -/
theorem C05_obtained_sound_partial (root : Path) (q : List DFile) (s : DState) (hwf : s.fs.WF)
    (hdisj : DisjointTargets q)
    (hshape : ∀ f ∈ q, f.checkSize = true → PoolShape f)
    (hold : ∀ v ∈ Reported s, SoundAt root s.fs v ∧ ∀ f ∈ q, ∀ p ∈ v.allPaths, p ∉ f.allPaths) :
    ∀ v ∈ Reported (download root q s), SoundAt root (download root q s).fs v := by
  unfold download
  apply foldl_downloadOne_sound root q.reverse s hwf
  · unfold DisjointTargets at hdisj
    rw [List.pairwise_reverse]
    exact hdisj.imp (fun {f g} h p hp hq => h p hq hp)
  · intro f hf; exact hshape f (List.mem_reverse.mp hf)
  · intro v hv
    obtain ⟨h1, h2⟩ := hold v hv
    exact ⟨h1, fun f hf => h2 f (List.mem_reverse.mp hf)⟩

/-- The full statement (no disjointness hypothesis, all interleavings) — **not proved and false for the
    code as it stands**: see `Props/C15.lean` and finding F-C05a. Kept visible. -/
def C05_obtained_sound_full : Prop :=
  ∀ (root : Path) (q : List DFile) (s : DState), s.fs.WF →
    (∀ f ∈ q, f.checkSize = true → PoolShape f) → s.book.downloaded = [] → s.book.unmodified = [] →
    ∀ v ∈ Reported (download root q s), SoundAt root (download root q s).fs v

/-- **C05 (exhausted ⇒ excluded).** If `download_file` does not accept the file and the file is neither
    under `ignore_errors` nor optional, all its alias paths are in `missing_sources`, so none of them
    is in the set `get_downloaded_files_paths()` hands to publication and cleaning. -/
theorem C05_exhausted_excluded (root : Path) (f : DFile) (s : DState)
    (hno : (downloadFile root f s).book.downloaded = s.book.downloaded)
    (hig : f.ignoreErrors = false ∧ f.ignoreMissing = false) :
    ∀ p ∈ f.allPaths, p ∈ (downloadFile root f s).book.missing := by
  cases downloadFile_outcome root f s with
  | accepted v hv h => rw [h.downloaded] at hno; simp at hno
  | ignored h hi => rcases hi with hi | hi <;> simp [hig.1, hig.2] at hi
  | failed _ _ hm _ => exact hm

/-! ### non-vacuity: a concrete run in which the hypotheses hold and something is reported -/

private def exV : Variant := { path := ["pool", "a.deb"], comp := .none, size := 3, hashes := [(.sha256, "h")], useByHash := false }
private def exF : DFile := { path := ["pool", "a.deb"], variants := [exV], checkSize := true, ignoreErrors := false, ignoreMissing := false }
private def exS : DState :=
  { fs := FS.empty, book := {}, orc := fun p => if p = ["pool", "a.deb"] then [.error, .ok (some 3) (some 5) 3 false 7] else [], reqs := [] }

example : (Reported (download [] [exF] exS)).length = 1 ∧ ((download [] [exF] exS).fs.sizeAt ["pool", "a.deb"]) = some 3 ∧
    (download [] [exF] exS).reqs.length = 2 := by decide

example : DisjointTargets [exF] ∧ PoolShape exF ∧ exS.fs.WF := by
  refine ⟨by simp [DisjointTargets], ?_, ?_⟩
  · intro v hv; simp [exF] at hv; subst hv; decide
  · intro p i h; simp [exS, FS.empty] at h

end AptMirror
