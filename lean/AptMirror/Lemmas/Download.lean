import AptMirror.Lemmas.FS
import AptMirror.Lemmas.Nest
/-!
What the transfer model (`Model/Download.lean`) does to the book and to the files it reports: what one `request` does
(`request_spec`), that an accepting pass is sound (`attempt_spec`), and from these, by the induction principle of
`Lemmas/Nest.lean`, the three ways `download_file` can end (`downloadFile_outcome`).
-/
namespace AptMirror

/-- what an accepting step guarantees about the resulting state -/
structure AcceptedOK (root : Path) (v : Variant) (s s' : DState) : Prop where
  size : 0 < v.size → ∀ p ∈ v.allPaths, s'.fs.sizeAt (root ++ p) = some v.size
  present : ∀ p ∈ v.allPaths, (s'.fs.ino (root ++ p)).isSome
  oneInode : ∀ p ∈ v.allPaths, ∀ q ∈ v.allPaths, s'.fs.ino (root ++ p) = s'.fs.ino (root ++ q)
  downloaded : s'.book.downloaded = s.book.downloaded ++ [v]
  unmodified : s'.book.unmodified = s.book.unmodified
  noErr : s'.book.errCount = s.book.errCount ∧ s'.book.missCount = s.book.missCount

/-- what a non-accepting run of a loop preserves -/
structure ExhaustedOK (s s' : DState) : Prop where
  downloaded : s'.book.downloaded = s.book.downloaded
  unmodified : s'.book.unmodified = s.book.unmodified
  missing : s'.book.missing = s.book.missing
  noErr : s'.book.errCount = s.book.errCount ∧ s'.book.missCount = s.book.missCount

/-- the passes that do not accept leave the whole book alone, which is more than `ExhaustedOK` asks -/
theorem ExhaustedOK.of_book_eq {s s' : DState} (h : s'.book = s.book) : ExhaustedOK s s' := by
  refine ⟨?_, ?_, ?_, ?_, ?_⟩ <;> rw [h]

theorem AcceptedOK.congr_book {root v} {a b c : DState} (h : b.book = a.book) (h2 : AcceptedOK root v b c) :
    AcceptedOK root v a c :=
  ⟨h2.size, h2.present, h2.oneInode, h ▸ h2.downloaded, h ▸ h2.unmodified, h ▸ h2.noErr⟩

/-! ### one request -/

/-- a script is its leading reconnect signals followed by what `dropRetries` returns, which does not begin with one -/
theorem dropRetries_spec (l : List Resp) :
    l = List.replicate (dropRetries l).1 .retry ++ (dropRetries l).2 ∧
    ∀ r rs, (dropRetries l).2 = r :: rs → r ≠ .retry := by
  induction l with
  | nil => simp [dropRetries]
  | cons a l ih =>
    cases a with
    | retry => exact ⟨by simp only [dropRetries, List.replicate_succ, List.cons_append]; rw [← ih.1], ih.2⟩
    | missing => simp [dropRetries]
    | error => simp [dropRetries]
    | ok a1 a2 a3 a4 a5 => simp [dropRetries]

/-- What one `request` of `u` does: filesystem and book are not involved, the other URLs' scripts stay, and of `u`'s script `k`
    reconnect signals and the answer (if there is one left) are consumed, `k + 1` requests of `u` being logged. -/
structure Requested (s : DState) (u : Path) (r : Resp) (s1 : DState) : Prop where
  fs : s1.fs = s.fs
  book : s1.book = s.book
  other : ∀ q, q ≠ u → s1.orc q = s.orc q
  self : ∃ k, s1.reqs = List.replicate (k + 1) u ++ s.reqs ∧
    ((r = .missing ∧ s.orc u = List.replicate k .retry ∧ s1.orc u = []) ∨
     (r ≠ .retry ∧ s.orc u = List.replicate k .retry ++ r :: s1.orc u))

theorem request_spec (s : DState) (u : Path) : Requested s u (s.request u).1 (s.request u).2 := by
  obtain ⟨h1, h2⟩ := dropRetries_spec (s.orc u)
  unfold DState.request
  split <;> rename_i heq <;> rw [heq] at h1 h2
  · exact ⟨rfl, rfl, fun q hq => if_neg hq, _, rfl, Or.inl ⟨rfl, by simpa using h1, if_pos rfl⟩⟩
  · exact ⟨rfl, rfl, fun q hq => if_neg hq, _, rfl, Or.inr ⟨h2 _ _ rfl, by simpa using h1⟩⟩

theorem request_ne_retry (s : DState) (u : Path) : (s.request u).1 ≠ .retry := by
  obtain ⟨_, _, ⟨h, _⟩ | ⟨h, _⟩⟩ := (request_spec s u).self
  · rw [h]; simp
  · exact h

theorem request_fs (s : DState) (u : Path) : (s.request u).2.fs = s.fs := (request_spec s u).fs
theorem request_book (s : DState) (u : Path) : (s.request u).2.book = s.book := (request_spec s u).book

/-- a request answers with `missing` or with one of the scripted answers, and only shortens the scripts -/
theorem request_mem (s : DState) (u : Path) :
    ((s.request u).1 = .missing ∨ (s.request u).1 ∈ s.orc u) ∧ ∀ q x, x ∈ (s.request u).2.orc q → x ∈ s.orc q := by
  have h := request_spec s u
  obtain ⟨k, _, hk⟩ := h.self
  refine ⟨hk.imp (·.1) (fun ⟨_, h2⟩ => by rw [h2]; simp), fun q x hx => ?_⟩
  by_cases hq : q = u
  · subst hq
    rcases hk with ⟨_, _, h3⟩ | ⟨_, h2⟩
    · rw [h3] at hx; cases hx
    · rw [h2]; simp [hx]
  · rw [← h.other q hq]; exact hx

/-! ### one pass through the loop body -/

theorem sizeAt_of_ino_eq {fs : FS} {p q : Path} (h : fs.ino p = fs.ino q) : fs.sizeAt p = fs.sizeAt q := by
  simp [FS.sizeAt, h]

theorem mem_map_root {root p : Path} {l : List Path} (h : p ∈ l) : root ++ p ∈ l.map (root ++ ·) :=
  List.mem_map.mpr ⟨p, h, rfl⟩

/-- `need_update` says no exactly when the name shows a file with the announced (non-zero) size and date -/
theorem needUpdate_eq_false {fs : FS} {p : Path} {a : Option Nat} {d : Option Int} :
    needUpdate fs p a d = false ↔
      ∃ fd n t, fs.dataAt p = some fd ∧ a = some n ∧ d = some t ∧ n ≠ 0 ∧ fd.mtime = some t ∧ fd.size = n := by
  unfold needUpdate
  split
  · rename_i fd t n hd
    simp only [Bool.not_eq_eq_eq_not, Bool.not_false, decide_eq_true_eq, hd]
    exact ⟨fun h => ⟨fd, n, t, rfl, rfl, rfl, h⟩, fun ⟨_, _, _, h1, h2, h3, h⟩ => by cases h1; cases h2; cases h3; exact h⟩
  · rename_i hno
    refine ⟨(fun h => nomatch h), fun ⟨fd, n, t, h1, h2, h3, _⟩ => ?_⟩
    subst h2 h3
    exact (hno fd t n h1 rfl rfl).elim

/-- request log and scripts are only touched by the request itself -/
theorem attempt_reqs (root : Path) (f : DFile) (v : Variant) (src : Path) (s : DState) (err : Bool) :
    (attempt root f v src s err).state.reqs = (s.request src).2.reqs ∧
    (attempt root f v src s err).state.orc = (s.request src).2.orc := by
  refine attempt_cases root f v src s err
    (P := fun r => r.state.reqs = (s.request src).2.reqs ∧ r.state.orc = (s.request src).2.orc) ?_ ?_ ?_ ?_ ?_
  all_goals intros; rw [‹s.request src = _›]; exact ⟨rfl, rfl⟩

/-- every alias has been linked to a name that shows a file of the declared size -/
theorem AcceptedOK.of_linked {root : Path} {v : Variant} {src : Path} {s s' : DState} {fs : FS} {fd : FileData}
    (hfs : s'.fs = linkOrCopy fs (root ++ src) (v.allPaths.map (root ++ ·)))
    (hd : fs.dataAt (root ++ src) = some fd) (hk : 0 < v.size → fd.size = v.size)
    (h1 : s'.book.downloaded = s.book.downloaded ++ [v]) (h2 : s'.book.unmodified = s.book.unmodified)
    (h3 : s'.book.errCount = s.book.errCount ∧ s'.book.missCount = s.book.missCount) : AcceptedOK root v s s' := by
  have hl : ∀ p ∈ v.allPaths, s'.fs.dataAt (root ++ p) = some fd := fun p hp => by
    rw [hfs, linkOrCopy_dataAt _ _ _ _ (mem_map_root hp), hd]
  refine ⟨fun hv p hp => ?_, fun p hp => ?_, fun p hp q hq => ?_, h1, h2, h3⟩
  · rw [FS.sizeAt_eq, hl p hp, ← hk hv]; rfl
  · rw [← FS.isSome_dataAt, hl p hp]; rfl
  · rw [hfs, linkOrCopy_mem _ _ _ _ (mem_map_root hp), linkOrCopy_mem _ _ _ _ (mem_map_root hq)]

/-- One pass through the loop body: a pass that does not accept leaves the book alone (which is more than `ExhaustedOK` asks);
    acceptance implies the declared size on every alias. -/
theorem attempt_spec (root : Path) (f : DFile) (v : Variant) (src : Path) (s : DState) (err : Bool) :
    (attempt root f v src s err).Post (fun s' => s'.book = s.book) (AcceptedOK root v s) := by
  have hbk : ∀ {r s1}, s.request src = (r, s1) → s1.book = s.book := fun h => by have := request_book s src; rwa [h] at this
  refine attempt_cases root f v src s err ?_ ?_ ?_ ?_ ?_
  · exact fun _ _ _ h _ => hbk h
  · exact fun _ _ h _ _ => hbk h
  · exact fun _ _ _ _ _ s1 h _ _ _ => hbk (s1 := s1) h
  · intro a d b ab t s1 h hlen htru hnu
    -- `need_update` said no: the name shows a file of the announced size, which is the declared one if one is declared
    obtain ⟨fd, k, _, hfd, rfl, _, _, _, hsz⟩ := needUpdate_eq_false.mp hnu
    refine AcceptedOK.congr_book (hbk h) (.of_linked rfl hfd (fun hv => ?_) rfl rfl ⟨rfl, rfl⟩)
    exact Classical.byContradiction fun hne => hlen ⟨hv, htru, fun e => hne (hsz.trans (Option.some.inj e))⟩
  · intro a d b ab t s1 h _ _ _ hsz
    exact AcceptedOK.congr_book (hbk h) (.of_linked rfl (utimeOpt_rewrite_dataAt _ _ _ _ _)
      (fun hv => Classical.byContradiction fun hne => hsz ⟨hv, fun e => hne e.symm⟩) rfl rfl ⟨rfl, rfl⟩)

/-- until a pass accepts the book is untouched, and the accepting pass is sound -/
theorem tryVariants_spec (root : Path) (f : DFile) (vs : List Variant) (s : DState) (err : Bool) :
    TryPost (fun s' => s'.book = s.book) (fun s' => ∃ v ∈ vs, AcceptedOK root v s s') (tryVariants root f vs s err) :=
  (tryVariants_induct (I := fun s' => s'.book = s.book) (Q := fun v _ => AcceptedOK root v s) vs
    (fun v _ src _ sk err hI => (attempt_spec root f v src sk err).mono (fun _ h => h.trans hI) (fun _ h => h.congr_book hI))
    s err rfl).mono (fun _ h => h) fun _ ⟨v, hv, _, _, h⟩ => ⟨v, hv, h⟩

/-! ### download_file and one queue step -/

theorem mem_listUnion_right {a b : List Path} {p : Path} (h : p ∈ b) : p ∈ listUnion a b := by
  unfold listUnion
  by_cases ha : p ∈ a
  · exact List.mem_append_left _ ha
  · apply List.mem_append_right
    rw [List.mem_eraseDups]
    exact List.mem_filter.mpr ⟨h, by simpa using ha⟩

theorem mem_listUnion_left {a b : List Path} {p : Path} (h : p ∈ a) : p ∈ listUnion a b :=
  List.mem_append_left _ h

/-- the three ways `download_file` can end -/
inductive FileOutcome (root : Path) (f : DFile) (s s' : DState) : Prop
  | accepted (v : Variant) (hv : v ∈ f.iterVariants) (h : AcceptedOK root v s s')
  | ignored (h : ExhaustedOK s s') (hig : f.ignoreErrors = true ∨ f.ignoreMissing = true)
  | failed (hd : s'.book.downloaded = s.book.downloaded) (hu : s'.book.unmodified = s.book.unmodified)
      (hm : ∀ p ∈ f.allPaths, p ∈ s'.book.missing)
      (hc : s'.book.missCount + s'.book.errCount = s.book.missCount + s.book.errCount + 1)

theorem downloadFile_outcome (root : Path) (f : DFile) (s : DState) :
    FileOutcome root f s (downloadFile root f s) := by
  have h := tryVariants_spec root f f.iterVariants s false
  fun_cases downloadFile root f s <;> rw [‹tryVariants root f f.iterVariants s false = _›] at h
  · obtain ⟨v, hv, hacc⟩ := h
    exact .accepted v hv hacc
  all_goals have h := ExhaustedOK.of_book_eq h
  · exact .ignored h (Or.inl ‹_›)
  · exact .ignored h (Or.inr (‹_ ∧ _›).1)
  · refine .failed h.downloaded h.unmodified (fun p hp => mem_listUnion_right hp) ?_
    show _ + 1 + _ = _
    rw [h.noErr.1, h.noErr.2]; omega
  · refine .failed h.downloaded h.unmodified (fun p hp => mem_listUnion_right hp) ?_
    show _ + (_ + 1) = _
    rw [h.noErr.1, h.noErr.2]; omega

/-- a `check_size` file of which some variant is complete on disk is short-cut -/
theorem downloadOne_shortcut {root : Path} {f : DFile} {s : DState} (hc : f.checkSize = true)
    (h : ∃ v ∈ f.iterVariants, s.fs.sizeAt (root ++ v.sourcePath) = some f.size) :
    ∃ v, downloadOne root f s =
      { s with book := { s.book with umCount := s.book.umCount + 1, umSize := s.book.umSize + f.size,
                                     unmodified := s.book.unmodified ++ [v] } } := by
  rcases downloadOne_cases root f s with ⟨v, _, _, _, h⟩ | ⟨hno, _⟩
  · exact ⟨v, h⟩
  · obtain ⟨v, hv, hsz⟩ := h
    exact absurd hsz (hno hc v hv)

end AptMirror
