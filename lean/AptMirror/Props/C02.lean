import AptMirror.Lemmas.Control
import AptMirror.Lemmas.Frame
import AptMirror.Lemmas.Mirror
/-!
# C02 — a failed run exits non-zero and leaves the repository's published state intact

> If, after all retries and fallbacks, a required file of a repository cannot be obtained (…), the run
> exits non-zero, that repository's published metadata is byte-identical to what it was before the run
> and nothing is deleted from its mirror directory. Conversely a run in which no required file fails
> exits 0: the absence (404) of individual InRelease/Release/Release.gpg flavours or of dist-upgrader
> files, and any failure of a path under ignore_errors, never fail the run, and one repository's
> failure never prevents another repository from being published.

Model: `Model/Control.lean` (`mirrorControl`, `runControl`: the stage sequence and result of
`RepositoryMirror.mirror()` and the exit status of `APTMirror.run()` as a function of the stage
outcomes) and `Model/Download.lean` (which files make a stage report errors/missing).
-/
namespace AptMirror

/-- a repository failed: release files invalid in every allowed round, or errors in the accepted round,
    or no index selected, or an error/missing file in the index or pool stage -/
def RepoPlan.Failed (p : RepoPlan) : Prop :=
  (∀ j, j < max 1 p.retries → (p.rounds j).valid = false) ∨
  (∃ n, n < max 1 p.retries ∧ (p.rounds n).valid = true ∧ (∀ j, j < n → (p.rounds j).valid = false) ∧
    ((p.rounds n).hasErrors = true ∨ p.metadataEmpty = true ∨ p.indexErrors = true ∨ p.indexMissing = true ∨
     p.poolErrors = true ∨ p.poolMissing = true))

/-- **C02 (result of one repository).** `mirror()` returns False exactly when the repository failed. -/
theorem C02_repo_result_iff (p : RepoPlan) : (mirrorControl p).2 = false ↔ p.Failed := by
  unfold RepoPlan.Failed
  rcases mirrorControl_cases p with ⟨h1, h2⟩ | ⟨n, hn, hv, hall, h⟩
  · rw [h2]; exact ⟨fun _ => .inl h1, fun _ => rfl⟩
  · rcases h with ⟨hm, h⟩ | ⟨hm, he, h⟩ | ⟨hm, he, h⟩ <;> rw [h]
    · exact ⟨fun _ => .inr ⟨n, hn, hv, hall, .inr (.inl hm)⟩, fun _ => rfl⟩
    · refine ⟨fun _ => .inr ⟨n, hn, hv, hall, ?_⟩, fun _ => rfl⟩
      simp only [RepoPlan.stageErrors, Bool.or_eq_true] at he
      rcases he with (((he | he) | he) | he) | he <;> simp [he]
    · refine ⟨(fun h => nomatch h), ?_⟩
      rintro (hf | ⟨m, _, hmv, hmall, hbad⟩)
      · rw [hf n hn] at hv; cases hv
      · -- the first valid round is unique
        have : m = n := by
          rcases Nat.lt_trichotomy m n with h | h | h
          · rw [hall m h] at hmv; cases hmv
          · exact h
          · rw [hmall n h] at hv; cases hv
        subst this
        simp only [RepoPlan.stageErrors, Bool.or_eq_false_iff] at he
        simp [he, hm] at hbad

/-- with at least one repository, the run exits 0 exactly when `mirror()` returned True for every one -/
theorem runControl_eq_zero_iff (plans : List RepoPlan) (hne : plans ≠ []) :
    runControl plans = 0 ↔ ∀ p ∈ plans, (mirrorControl p).2 = true := by
  unfold runControl exitStatus
  cases plans with
  | nil => exact absurd rfl hne
  | cons a l =>
    rw [if_neg (by simp)]
    by_cases h : ((a :: l).map fun p => (mirrorControl p).2).all id = true
    · rw [if_pos h]; simpa using h
    · rw [if_neg h]; simpa using h

/-- **C02 (exit status).** With at least one repository configured, the run exits non-zero iff some
    repository failed; it is then 1. -/
theorem C02_exit_iff (plans : List RepoPlan) (hne : plans ≠ []) :
    runControl plans ≠ 0 ↔ ∃ p ∈ plans, p.Failed := by
  rw [Ne, runControl_eq_zero_iff plans hne]
  simp only [← C02_repo_result_iff, Classical.not_forall, Bool.not_eq_true, exists_prop]

/-- **C02 (a failed repository is never published and never cleaned).** -/
theorem C02_failed_no_publish (p : RepoPlan) (h : (mirrorControl p).2 = false) :
    Stage.publish ∉ (mirrorControl p).1 ∧ Stage.clean ∉ (mirrorControl p).1 := by
  rcases mirrorControl_cases p with ⟨_, h2⟩ | ⟨n, _, _, _, ⟨_, h2⟩ | ⟨_, _, h2⟩ | ⟨_, _, h2⟩⟩ <;> rw [h2] at h ⊢
  · simp [roundStages]
  · simp [roundStages]
  · simp [roundStages]
  · cases h

/-- **C02 (repositories are independent).** The result of repository `i` in a run over several
    repositories is its result when it is the only one; another repository's failure changes nothing. -/
theorem C02_repos_independent (plans : List RepoPlan) (i : Nat) (hi : i < plans.length) :
    (plans.map fun p => (mirrorControl p).2)[i]'(by simpa using hi) = (mirrorControl plans[i]).2 := by
  simp

/-- **C02 (a failing transfer stage only adds).** A download never removes a name that existed before:
    every path present before `download_file` is present afterwards (a failed repository's mirror
    directory keeps all its files; `publish` and `clean` are not run for it by `C02_failed_no_publish`). -/
theorem C02_download_keeps_names (root : Path) (f : DFile) (s : DState) (p : Path)
    (hout : p ∉ f.targets root) : (downloadOne root f s).fs.ino p = s.fs.ino p :=
  (downloadOne_frame root f s).ino p hout

/-- **C02 (optional files never fail a stage).** A file that is optional (`ignore_missing`: release
    flavours, dist-upgrader files) and only ever answers 404, or any file under `ignore_errors` whatever
    it answers, leaves both the error and the missing counter unchanged. -/
theorem C02_optional_never_fails (root : Path) (f : DFile) (s : DState)
    (h : f.ignoreErrors = true) :
    (downloadFile root f s).book.errCount = s.book.errCount ∧
    (downloadFile root f s).book.missCount = s.book.missCount := by
  -- with ignore_errors the function returns what the loops left, whether they accepted or not
  have hs := tryVariants_spec root f f.iterVariants s false
  unfold downloadFile
  generalize tryVariants root f f.iterVariants s false = r at hs
  obtain ⟨_ | _, s1, e⟩ := r
  · obtain ⟨v, _, hacc⟩ := hs
    exact hacc.noErr
  · have hs : s1.book = s.book := hs
    simp only [if_pos h, hs, and_self]

/-! ### non-vacuity -/
private def okRound : Round := { valid := true, hasErrors := false }
private def badRound : Round := { valid := false, hasErrors := false }
private def planOK : RepoPlan where
  retries := 3
  rounds := fun _ => okRound
  metadataEmpty := false
  indexErrors := false
  indexMissing := false
  poolErrors := false
  poolMissing := false
  clean := true
private def planBad : RepoPlan := { planOK with poolMissing := true }
private def planRel : RepoPlan := { planOK with rounds := (fun _ => badRound) }
example : mirrorControl planOK = ([.releaseRound 0, .indices, .skelClean, .pool, .publish, .clean], true) := by decide
example : mirrorControl planBad = ([.releaseRound 0, .indices, .skelClean, .pool], false) := by decide
example : mirrorControl planRel = ([.releaseRound 0, .releaseRound 1, .releaseRound 2], false) := by decide
example : runControl [planOK, planBad] = 1 ∧ runControl [planOK, planOK] = 0 ∧ runControl [] = 2 := by decide


/-! ## a failed run over the repository's mirror directory (L2) -/
namespace Mirror

/-- the operations of a run that fails in (or before) its pool stage: whatever part of the pool stage it got through -
    `mirrorControl` schedules neither publish nor clean after an error (`C02_failed_no_publish`) -/
def failedRunOps (t : Tree) (need : Need) (k : Nat) : List Op := (poolOps t need.pool).take k

/-- **C02 (a failed run leaves the published metadata alone and deletes nothing).** However far the pool stage got before
    the repository failed, the live metadata is exactly what it was, every file name that existed still exists, and every
    file that was not a queue entry lacking its declared size is untouched. -/
theorem C02_failed_run_keeps_tree (t : Tree) (need : Need) (hok : NeedOK need) (k : Nat) :
    (exec (failedRunOps t need k) t).dists = t.dists ∧
    (∀ p, t.pool p ≠ none → (exec (failedRunOps t need k) t).pool p ≠ none) ∧
    (∀ p, (∀ n ∈ need.pool, n.path = p → present t n = true) → (exec (failedRunOps t need k) t).pool p = t.pool p) :=
  pool_prefix need.pool t hok.distinct k

end Mirror

end AptMirror
