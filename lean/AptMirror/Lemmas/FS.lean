import AptMirror.Model.Download
/-!
Every filesystem operation of the transfer model is described once, by what it does to `ino`, `dat` and `next`.
What a name *shows* is `dataAt`; `sizeAt` (and `contentAt`, `exists_`) are images of it, so a fact about `dataAt`
is a fact about all of them (`sizeAt_eq`).
-/
namespace AptMirror
namespace FS

theorem sizeAt_eq (fs : FS) (p : Path) : fs.sizeAt p = (fs.dataAt p).map (·.size) := by
  unfold sizeAt dataAt; cases fs.ino p <;> rfl

theorem isSome_dataAt (fs : FS) (p : Path) : (fs.dataAt p).isSome = (fs.ino p).isSome := by
  simp [dataAt]

/-- names bound to the same inode show the same file -/
theorem dataAt_of_ino_eq {a b : FS} {p q : Path} (hi : a.ino p = b.ino q) (hd : ∀ i, b.ino q = some i → a.dat i = b.dat i) :
    a.dataAt p = b.dataAt q := by
  unfold dataAt
  rw [hi]
  cases h : b.ino q with
  | none => rfl
  | some i => simp [hd i h]

@[simp] theorem relink_ino_self (fs : FS) (s d : Path) : (fs.relink s d).ino d = fs.ino s := by
  simp [relink]
@[simp] theorem relink_ino_other (fs : FS) (s d q : Path) (h : q ≠ d) : (fs.relink s d).ino q = fs.ino q := by
  simp [relink, h]
@[simp] theorem relink_dat (fs : FS) (s d : Path) : (fs.relink s d).dat = fs.dat := rfl
@[simp] theorem relink_next (fs : FS) (s d : Path) : (fs.relink s d).next = fs.next := rfl

@[simp] theorem unlink_ino_self (fs : FS) (p : Path) : (fs.unlink p).ino p = none := by simp [unlink]
@[simp] theorem unlink_ino_other (fs : FS) (p q : Path) (h : q ≠ p) : (fs.unlink p).ino q = fs.ino q := by
  simp [unlink, h]
@[simp] theorem unlink_dat (fs : FS) (p : Path) : (fs.unlink p).dat = fs.dat := rfl
@[simp] theorem unlink_next (fs : FS) (p : Path) : (fs.unlink p).next = fs.next := rfl

/-! a fresh file: the name is bound to the new inode `fs.next`, nothing else is touched -/

@[simp] theorem addFile_ino_self (fs : FS) (p : Path) (d : FileData) : (fs.addFile p d).ino p = some fs.next := by
  simp [addFile]
@[simp] theorem addFile_ino_other (fs : FS) (p q : Path) (d : FileData) (h : q ≠ p) : (fs.addFile p d).ino q = fs.ino q := by
  simp [addFile, h]
@[simp] theorem addFile_dat_new (fs : FS) (p : Path) (d : FileData) : (fs.addFile p d).dat fs.next = d := by
  simp [addFile]
@[simp] theorem addFile_dat_old (fs : FS) (p : Path) (d : FileData) (i : Nat) (h : i ≠ fs.next) :
    (fs.addFile p d).dat i = fs.dat i := by
  simp [addFile, h]
@[simp] theorem addFile_next (fs : FS) (p : Path) (d : FileData) : (fs.addFile p d).next = fs.next + 1 := rfl

/-- unlink, `open("wb")`, write: the name comes to show a fresh file with the written content -/
theorem rewrite_eq_addFile (fs : FS) (p : Path) (n tag : Nat) :
    fs.rewrite p n tag = fs.addFile p { size := n, mtime := none, tag := tag } := by
  have h : (fs.unlink p).ino p = none := unlink_ino_self fs p
  simp only [rewrite, createTrunc, h, setContent, addFile]
  simp only [if_pos, unlink]
  congr 1
  · funext q; split <;> rfl
  · funext j; split
    · rfl
    · rename_i hj; exact if_neg hj

/-! `utime` only sets the `mtime` of the inode the name is bound to -/

theorem utime_ino (fs : FS) (p : Path) (t : Int) : (fs.utime p t).ino = fs.ino := by
  unfold utime; split <;> rfl
theorem utime_next (fs : FS) (p : Path) (t : Int) : (fs.utime p t).next = fs.next := by
  unfold utime; split <;> rfl
theorem utime_dat (fs : FS) (p : Path) (t : Int) (i : Nat) :
    (fs.utime p t).dat i = if fs.ino p = some i then { fs.dat i with mtime := some t } else fs.dat i := by
  unfold utime
  cases h : fs.ino p with
  | none => simp
  | some j => by_cases hij : i = j <;> simp [hij, eq_comm]

end FS

theorem utimeOpt_ino (fs : FS) (p : Path) (d : Option Int) : (utimeOpt fs p d).ino = fs.ino := by
  cases d <;> simp [utimeOpt, FS.utime_ino]
theorem utimeOpt_next (fs : FS) (p : Path) (d : Option Int) : (utimeOpt fs p d).next = fs.next := by
  cases d <;> simp [utimeOpt, FS.utime_next]
/-- size and content of every inode survive; at most the `mtime` of `p`'s inode changes -/
theorem utimeOpt_dat (fs : FS) (p : Path) (d : Option Int) (i : Nat) :
    (utimeOpt fs p d).dat i = fs.dat i ∨ (fs.ino p = some i ∧ ∃ m, (utimeOpt fs p d).dat i = { fs.dat i with mtime := m }) := by
  cases d with
  | none => exact Or.inl rfl
  | some t =>
    simp only [utimeOpt, FS.utime_dat]
    split
    · rename_i h; exact Or.inr ⟨h, _, rfl⟩
    · exact Or.inl rfl

/-- the write sequence of the download branch: the name shows the body, dated as announced -/
theorem utimeOpt_rewrite_dataAt (fs : FS) (p : Path) (n tag : Nat) (d : Option Int) :
    (utimeOpt (fs.rewrite p n tag) p d).dataAt p = some { size := n, mtime := d, tag := tag } := by
  rw [FS.rewrite_eq_addFile]
  cases d <;> simp [FS.dataAt, utimeOpt, FS.utime_ino, FS.utime_dat]

/-! ### link_or_copy: every target comes to name the inode of `source`; nothing else changes -/

theorem foldl_relink_ino (t0 : Path) (ts : List Path) (fs : FS) (q : Path) :
    (ts.foldl (fun acc t => if t = t0 then acc else acc.relink t0 t) fs).ino q
      = if q ∈ ts then fs.ino t0 else fs.ino q := by
  induction ts generalizing fs with
  | nil => simp
  | cons t ts ih =>
    rw [List.foldl_cons, ih]
    by_cases ht : t = t0
    · subst ht; by_cases hq : q = t <;> simp [hq]
    · rw [if_neg ht, FS.relink_ino_other _ _ _ _ (Ne.symm ht)]
      by_cases hq : q = t
      · subst hq; simp
      · simp [hq]

theorem foldl_relink_t0 (t0 : Path) (ts : List Path) (fs : FS) :
    (ts.foldl (fun acc t => if t = t0 then acc else acc.relink t0 t) fs).ino t0 = fs.ino t0 := by
  rw [foldl_relink_ino]; split <;> rfl

theorem foldl_relink_dat_next (t0 : Path) (ts : List Path) (fs : FS) :
    (ts.foldl (fun acc t => if t = t0 then acc else acc.relink t0 t) fs).dat = fs.dat ∧
    (ts.foldl (fun acc t => if t = t0 then acc else acc.relink t0 t) fs).next = fs.next := by
  induction ts generalizing fs with
  | nil => exact ⟨rfl, rfl⟩
  | cons t ts ih => rw [List.foldl_cons, (ih _).1, (ih _).2]; split <;> exact ⟨rfl, rfl⟩

theorem linkOrCopy_dat (fs : FS) (src : Path) (ts : List Path) : (linkOrCopy fs src ts).dat = fs.dat := by
  unfold linkOrCopy
  split
  · rfl
  · split <;> rfl
  · rw [(foldl_relink_dat_next _ _ _).1]; split <;> rfl

theorem linkOrCopy_next (fs : FS) (src : Path) (ts : List Path) : (linkOrCopy fs src ts).next = fs.next := by
  unfold linkOrCopy
  split
  · rfl
  · split <;> rfl
  · rw [(foldl_relink_dat_next _ _ _).2]; split <;> rfl

theorem linkOrCopy_ino (fs : FS) (src : Path) (ts : List Path) (q : Path) :
    (linkOrCopy fs src ts).ino q = if q ∈ ts then fs.ino src else fs.ino q := by
  unfold linkOrCopy
  split
  · simp
  · rename_i t
    by_cases hq : q = t
    · subst hq; by_cases hs : q = src <;> simp [hs]
    · by_cases hs : t = src
      · subst hs; simp [hq]
      · simp [hs, hq]
  · rename_i t0 rest _
    rw [foldl_relink_ino]
    by_cases hs : t0 = src
    · subst hs; simp
    · rw [if_neg hs, FS.relink_ino_self]
      by_cases hq : q ∈ t0 :: rest
      · simp [hq]
      · have : q ≠ t0 := fun h => hq (h ▸ List.mem_cons_self)
        simp [hq, this]

theorem linkOrCopy_mem (fs : FS) (src : Path) (ts : List Path) (q : Path) (hq : q ∈ ts) :
    (linkOrCopy fs src ts).ino q = fs.ino src := by
  rw [linkOrCopy_ino, if_pos hq]

theorem linkOrCopy_frame (fs : FS) (src : Path) (ts : List Path) (q : Path) (hq : q ∉ ts) :
    (linkOrCopy fs src ts).ino q = fs.ino q := by
  rw [linkOrCopy_ino, if_neg hq]

theorem linkOrCopy_dataAt (fs : FS) (src : Path) (ts : List Path) (q : Path) (hq : q ∈ ts) :
    (linkOrCopy fs src ts).dataAt q = fs.dataAt src :=
  FS.dataAt_of_ino_eq (linkOrCopy_mem fs src ts q hq) (fun _ _ => by rw [linkOrCopy_dat])

end AptMirror
