import AptMirror.Model.Config
import AptMirror.Lemmas.Except
/-
  The merge of `deb` lines into repositories (`addLine` and below), read through the tuples it yields: at every level
  (architectures, components, codenames, flat directories) merging a line adds to the tuples exactly what the line asks for.
-/
namespace AptMirror
namespace Cfg
open Str

/-! ### two shapes the merge code has at every level -/

/-- a fold whose every step adds `Q a` to what `M` holds of the accumulator -/
theorem foldl_or {α β : Type} {step : β → α → β} {M : β → Prop} {Q : α → Prop} (h : ∀ b a, M (step b a) ↔ M b ∨ Q a)
    (as : List α) (b : β) : M (as.foldl step b) ↔ M b ∨ ∃ a ∈ as, Q a := by
  induction as generalizing b with
  | nil => simp
  | cons a as ih => simp [ih, h, or_assoc]

/-- an in-place update of the entries under key `c` of a dictionary kept as a list: if the update adds `Q` to what `P` holds of an
    entry, `Q` is what the dictionary gains -/
theorem exists_mem_map_update {α κ : Type} [DecidableEq κ] (key : α → κ) (c : κ) (upd : α → α) (xs : List α)
    {P : α → Prop} {Q : Prop} (hc : ∃ k ∈ xs, key k = c) (hupd : ∀ k ∈ xs, key k = c → (P (upd k) ↔ P k ∨ Q)) :
    (∃ k ∈ xs.map (fun k => if key k = c then upd k else k), P k) ↔ (∃ k ∈ xs, P k) ∨ Q := by
  constructor
  · rintro ⟨k', hk', hP⟩
    obtain ⟨k, hk, rfl⟩ := List.mem_map.mp hk'
    split at hP
    · rename_i hc; exact ((hupd k hk hc).mp hP).imp (fun h => ⟨k, hk, h⟩) id
    · exact Or.inl ⟨k, hk, hP⟩
  · rintro (⟨k, hk, hP⟩ | hQ)
    · refine ⟨_, List.mem_map_of_mem hk, ?_⟩
      split
      · rename_i hc; exact (hupd k hk hc).mpr (Or.inl hP)
      · exact hP
    · obtain ⟨k, hk, hc⟩ := hc
      exact ⟨_, List.mem_map_of_mem hk, by rw [if_pos hc]; exact (hupd k hk hc).mpr (Or.inr hQ)⟩

theorem exists_mem_append_new {α : Type} (new : α) (xs : List α) {P : α → Prop} {Q : Prop} (hnew : P new ↔ Q) :
    (∃ k ∈ xs ++ [new], P k) ↔ (∃ k ∈ xs, P k) ∨ Q := by
  simp [List.mem_append, or_and_right, exists_or, hnew]

/-- `d.setdefault(c, new)` followed by an in-place update of the entry under `c`, on an insertion-ordered dictionary kept as a
    list -/
theorem exists_mem_upsert {α κ : Type} [DecidableEq κ] (key : α → κ) (c : κ) (upd : α → α) (new : α) (xs : List α)
    {P : α → Prop} {Q : Prop} (hupd : ∀ k ∈ xs, key k = c → (P (upd k) ↔ P k ∨ Q)) (hnew : P new ↔ Q) :
    (∃ k ∈ (if xs.any (key · = c) then xs.map (fun k => if key k = c then upd k else k) else xs ++ [new]), P k) ↔
      (∃ k ∈ xs, P k) ∨ Q := by
  split
  · rename_i hany
    exact exists_mem_map_update key c upd xs (by simpa using hany) hupd
  · exact exists_mem_append_new new xs hnew

/-! ### architectures -/

theorem mem_addArch (xs : List S) (a b : S) : b ∈ addArch xs a ↔ b ∈ xs ∨ b = a := by
  unfold addArch
  split
  · rename_i h
    exact ⟨Or.inl, fun hb => hb.elim id fun hb => by simpa [hb] using h⟩
  · simp

theorem mem_foldl_addArch (ys xs : List S) (b : S) : b ∈ ys.foldl addArch xs ↔ b ∈ xs ∨ b ∈ ys := by
  simpa using foldl_or (M := (b ∈ ·)) (fun xs a => mem_addArch xs a b) ys xs

/-! ### components, codenames, flat directories: each merge adds what the line asks for -/

/-- what one line asks for, per component -/
def lineWhat (l : LineCfg) : What → Prop
  | .arch a => a ∈ l.arches
  | .source => l.source = true
  | .binaries => False

def lineFlatWhat (l : LineCfg) : What → Prop
  | .binaries => l.arches.isEmpty = false
  | .source => l.source = true
  | .arch _ => False

def compHas (k : CompRec) : What → Prop
  | .arch a => a ∈ k.arches
  | .source => k.source = true
  | .binaries => False

def flatHas (d : FlatRec) : What → Prop
  | .binaries => d.binaries = true
  | .source => d.source = true
  | .arch _ => False

/-- `t` is `(key, cn, c, w)` for some `w` with `what w` -/
def Is (key cn c : S) (what : What → Prop) (t : Tuple) : Prop :=
  what t.what ∧ t.repo = key ∧ t.codename = cn ∧ t.component = c

def cnTuples (key : S) (cn : CodenameRec) : List Tuple := cn.comps.flatMap (compTuples key cn.name)

def flatTuples (key : S) (d : FlatRec) : List Tuple :=
  (if d.binaries then [{ repo := key, codename := d.dir, component := [], what := .binaries }] else []) ++
  (if d.source then [{ repo := key, codename := d.dir, component := [], what := .source }] else [])

theorem repoTuples_eq (r : RepoRec) : repoTuples r =
    match r.kind with | .std cns => cns.flatMap (cnTuples r.key) | .flat dirs => dirs.flatMap (flatTuples r.key) := rfl

theorem mem_compTuples (key cn : S) (c : CompRec) (t : Tuple) : t ∈ compTuples key cn c ↔ Is key cn c.name (compHas c) t := by
  obtain ⟨r, cn', cp, w⟩ := t
  cases w <;> simp [compTuples, compHas, Is, @eq_comm _ key, @eq_comm _ cn, @eq_comm _ c.name]
  exact ⟨fun ⟨_, ha, h1, h2, h3, e⟩ => ⟨e ▸ ha, h1, h2, h3⟩, fun ⟨ha, h1, h2, h3⟩ => ⟨_, ha, h1, h2, h3, rfl⟩⟩

theorem mem_flatTuples (key : S) (d : FlatRec) (t : Tuple) : t ∈ flatTuples key d ↔ Is key d.dir [] (flatHas d) t := by
  obtain ⟨r, cn', cp, w⟩ := t
  cases w <;> simp [flatTuples, flatHas, Is]

theorem mem_mergeComp (l : LineCfg) (key cn : S) (t : Tuple) (comps : List CompRec) (c : S) :
    t ∈ (mergeComp l comps c).flatMap (compTuples key cn) ↔
      t ∈ comps.flatMap (compTuples key cn) ∨ Is key cn c (lineWhat l) t := by
  simp only [List.mem_flatMap, mem_compTuples, Is]
  refine exists_mem_upsert CompRec.name c _ _ comps (fun k _ hk => ?_) ?_ <;>
    cases t.what <;> simp [compHas, lineWhat, mem_foldl_addArch, or_and_right, *]

theorem mem_foldl_mergeComp (l : LineCfg) (key cn : S) (t : Tuple) (cs : List S) (comps : List CompRec) :
    t ∈ (cs.foldl (mergeComp l) comps).flatMap (compTuples key cn) ↔
      t ∈ comps.flatMap (compTuples key cn) ∨ ∃ c ∈ cs, Is key cn c (lineWhat l) t :=
  foldl_or (M := fun comps => t ∈ comps.flatMap (compTuples key cn)) (mem_mergeComp l key cn t) cs comps

theorem mem_mergeCodename (l : LineCfg) (key : S) (t : Tuple) (cns : List CodenameRec) (cn : S) :
    t ∈ (mergeCodename l cns cn).flatMap (cnTuples key) ↔
      t ∈ cns.flatMap (cnTuples key) ∨ ∃ c ∈ l.components, Is key cn c (lineWhat l) t := by
  simp only [List.mem_flatMap]
  refine exists_mem_upsert CodenameRec.name cn _ _ cns (fun k _ hk => ?_) ?_
  · simp only [cnTuples, mem_foldl_mergeComp, hk]
  · simp only [cnTuples, newCodename, mem_foldl_mergeComp, List.flatMap_nil, List.not_mem_nil, false_or]

theorem mem_foldl_mergeCodename (l : LineCfg) (key : S) (t : Tuple) (cs : List S) (cns : List CodenameRec) :
    t ∈ (cs.foldl (mergeCodename l) cns).flatMap (cnTuples key) ↔
      t ∈ cns.flatMap (cnTuples key) ∨ ∃ cn ∈ cs, ∃ c ∈ l.components, Is key cn c (lineWhat l) t :=
  foldl_or (M := fun cns => t ∈ cns.flatMap (cnTuples key)) (mem_mergeCodename l key t) cs cns

theorem mem_mergeFlat (l : LineCfg) (key : S) (t : Tuple) (dirs : List FlatRec) (c : S) :
    t ∈ (mergeFlat l dirs c).flatMap (flatTuples key) ↔
      t ∈ dirs.flatMap (flatTuples key) ∨ Is key (rstrip '/' c) [] (lineFlatWhat l) t := by
  simp only [List.mem_flatMap, mem_flatTuples, Is]
  refine exists_mem_upsert FlatRec.dir (rstrip '/' c) _ _ dirs (fun k _ hk => ?_) ?_ <;>
    cases t.what <;> simp [flatHas, lineFlatWhat, or_and_right, *]

theorem mem_foldl_mergeFlat (l : LineCfg) (key : S) (t : Tuple) (cs : List S) (dirs : List FlatRec) :
    t ∈ (cs.foldl (mergeFlat l) dirs).flatMap (flatTuples key) ↔
      t ∈ dirs.flatMap (flatTuples key) ∨ ∃ c ∈ cs, Is key (rstrip '/' c) [] (lineFlatWhat l) t :=
  foldl_or (M := fun dirs => t ∈ dirs.flatMap (flatTuples key)) (mem_mergeFlat l key t) cs dirs

end Cfg
end AptMirror
