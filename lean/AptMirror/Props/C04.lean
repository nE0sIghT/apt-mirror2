import AptMirror.Lemmas.Script
import AptMirror.Lemmas.Clean
/-!
# C04 — cleaning removes exactly the unneeded files, and does so safely

> Cleaning (automatic, or by running the generated clean script) never removes a file referenced by the
> just-published metadata, anything under a skip-clean path, a symbolic link or anything reached through one,
> or anything outside the repository's mirror directory; it removes every other regular file and every
> directory left without kept content, and removes nothing at all when the share of bytes or of files to
> delete reaches the configured wipe ratios. Running the generated clean script changes the filesystem
> exactly as automatic cleaning would, for every possible file name.

Model: `Model/Clean.lean` — `scanNode`/`scanList` (the recursive `_check_folder`/`_check_file`), `cleanAllowed`
(ratios as exact fractions; `0/0` is an explicit `zeroDivision` outcome), `execQueues` on the flat view of the
tree, `specSurvives` (the property's wording as a predicate); `Script.quote` (= `shlex.quote`, the code after
fix) / `Script.legacyQuote` (the original `'…'`), `Script.lex` (POSIX shell word splitting restricted to
quotes, blanks and newlines — everything the script can contain once names are quoted).

Proved here, for every file name (any characters: quotes, blanks, `$`, backslashes, newlines) and any
number of files and folders: the shell reads the generated script as exactly the intended `rm` commands
(`C04_script_equiv`), hence script ≡ autoclean.  The agreement of the recursive scan with `specSurvives` — the unlink
queue is exactly the set of regular files that are neither kept nor below a kept path, the rmdir queue is exactly the set
of non-root directories that are neither kept, nor below a kept path, nor contain a kept path or a symbolic link — is
proved for every tree with distinct sibling names, every keep set and every nesting depth (`C04_files_exact`,
`C04_folders_exact`, `C04_symlink_never_queued`), by mutual induction over the tree; and executing the two queues in order
never meets a non-empty directory and leaves exactly the specified survivors (`C04_exec_exact`).
-/
namespace AptMirror
open Str Script

/-- **C04 (quoting round trip).** For every name `f`, the shell splits the line `rm -f <quote f>` into exactly the
    three words `rm`, `-f`, `f`. -/
theorem C04_quote_roundtrip (f : S) : lex ("rm -f ".toList ++ quote f ++ ['\n']) = some [["rm".toList, "-f".toList, f]] :=
  lex_of_idle (run_line "rm -f ".toList ["rm".toList, "-f".toList] f [] (run_rm []).1)

/-- **C04 (script ≡ autoclean).** The body of the generated script is read by the shell as exactly one
    `rm -f <file>` per queued file followed by one `rm -r <folder>` per queued folder, in queue order — for all
    names. Executing it therefore removes exactly what automatic cleaning removes. -/
theorem C04_script_equiv (files folders : List S) :
    lex (scriptBody quote files folders) = some (intended files folders) := by
  have h1 := run_lines "rm -f ".toList ["rm".toList, "-f".toList] (fun cm => (run_rm cm).1) files []
  have h2 := run_lines "rm -r ".toList ["rm".toList, "-r".toList] (fun cm => (run_rm cm).2) folders
  refine (lex_of_idle ((run_append _ _ _).trans (by rw [h1, h2]))).trans ?_
  simp only [List.reverse_append, List.reverse_reverse, List.append_nil, intended]
  rfl

/-- **C04 (the original quoting is wrong).** With `'…'` quoting a name containing a single quote makes the shell
    see other words than the name: the script then differs from automatic cleaning (finding F-C04b). -/
theorem C04_legacy_quote_counterexample :
    lex ("rm -f ".toList ++ legacyQuote "/m/pool/x' '/m/keep".toList ++ ['\n'])
      = some [["rm".toList, "-f".toList, "/m/pool/x".toList, "/m/keep".toList]] := by decide

/-- **C04 (wipe protection).** When the share of bytes or of files to delete reaches a configured ratio, the
    verdict is `no`; with both ratios disabled it is `yes`. -/
theorem C04_wipe_decision (s : Clean.Scan) (n d : Nat) (hn : n ≠ 0) (hb : s.bytesTotal ≠ 0)
    (h : s.bytesCleaned * d ≥ n * s.bytesTotal) (cr : Option (Nat × Nat)) :
    Clean.cleanAllowed s (some (n, d)) cr = .no := by
  simp [Clean.cleanAllowed, hn, hb, h]

/-- **C04 (empty trees).** A tree without regular files is cleaned whatever the ratios (nothing to protect); the
    original code raised ZeroDivisionError there (finding F-C04a). -/
theorem C04_empty_tree_allowed (sr cr : Option (Nat × Nat)) (s : Clean.Scan) (h : s.bytesTotal = 0 ∧ s.nFiles = 0) :
    Clean.cleanAllowed s sr cr = .yes := by
  obtain ⟨h1, h2⟩ := h
  unfold Clean.cleanAllowed
  cases sr with
  | none => cases cr with
    | none => rfl
    | some c => obtain ⟨n, d⟩ := c; by_cases hn : n = 0 <;> simp [hn, h2]
  | some r =>
    obtain ⟨n, d⟩ := r
    cases cr with
    | none => by_cases hn : n = 0 <;> simp [hn, h1]
    | some c => obtain ⟨n2, d2⟩ := c; by_cases hn : n = 0 <;> by_cases hn2 : n2 = 0 <;> simp [hn, hn2, h1, h2]

theorem C04_legacy_zero_division :
    Clean.legacyCleanAllowed (Clean.scan [] (.dir [("empty", .dir [])])) (some (2, 5)) (some (2, 5)) = .zeroDivision := by decide

theorem C04_wipe_disabled (s : Clean.Scan) : Clean.cleanAllowed s none none = .yes := rfl

/-- **C04 (kept files are never queued).** Whatever the tree, a file whose relative path is in the keep set is
    not put into the unlink queue by the scan step that visits it, and a kept directory is not descended. -/
theorem C04_kept_not_queued (keep : List Path) (isRoot : Bool) (rel : Path) (n : Clean.Node) (h : keep.contains rel = true) :
    (Clean.scanNode keep isRoot rel n).filesQ = [] ∧ (Clean.scanNode keep isRoot rel n).foldersQ = [] ∧
    (Clean.scanNode keep isRoot rel n).needed = true := by
  have hm : rel ∈ keep := by simpa using h
  cases n with
  | file sz => simp [Clean.scanNode, hm, Clean.Scan.empty]
  | symlink => simp [Clean.scanNode, Clean.Scan.empty]
  | dir cs => simp [Clean.scanNode, hm, Clean.Scan.empty]

/-- **C04 (symlinks are never queued nor followed).** -/
theorem C04_symlink_kept (keep : List Path) (isRoot : Bool) (rel : Path) :
    Clean.scanNode keep isRoot rel .symlink = { Clean.Scan.empty with needed := true } := by
  simp [Clean.scanNode]

namespace Clean
theorem spec_file_false (keep : List Path) (fs : List (Path × Kind)) (p : Path) :
    specSurvives keep fs (p, Kind.file) = false ↔ Free keep [] p := by
  simp [specSurvives, free_root]

theorem spec_dir_false (keep : List Path) (fs : List (Path × Kind)) (d : Path) :
    specSurvives keep fs (d, Kind.dir) = false ↔
      (d ≠ [] ∧ Free keep [] d ∧ ∀ x ∈ fs, ¬ (properPrefix d x.1 = true ∧ Pins keep x)) := by
  simp [specSurvives, free_root, Pins, and_assoc]
end Clean

open Clean in
/-- **C04 (exactly the unneeded files).** For every tree, keep set and path: the scan queues `p` for unlinking iff `p` is a
    regular file of the tree that the specification does not let survive (not kept, not below a kept path). -/
theorem C04_files_exact (keep : List Path) (root : Node) (p : Path) :
    p ∈ (scan keep root).filesQ ↔
      ((p, Kind.file) ∈ flattenNode [] root ∧ specSurvives keep (flattenNode [] root) (p, Kind.file) = false) := by
  rw [mem_filesQ_scan, spec_file_false]

open Clean in
/-- **C04 (exactly the directories left without kept content).** In a tree with distinct sibling names the scan queues `d`
    for removal iff `d` is a directory of the tree that the specification does not let survive: not the root, not kept,
    not below a kept path, and containing neither a kept path nor a symbolic link. -/
theorem C04_folders_exact (keep : List Path) (root : Node) (hwf : wfNode root) (d : Path) :
    d ∈ (scan keep root).foldersQ ↔
      ((d, Kind.dir) ∈ flattenNode [] root ∧ specSurvives keep (flattenNode [] root) (d, Kind.dir) = false) := by
  rw [mem_foldersQ_scan, spec_dir_false, mem_flat]
  -- the directory's own scan found nothing that pins it iff nothing strictly below it in the flat view does
  have hn : ∀ {cs}, Sub root d (.dir cs) → ((scanList keep d cs).needed = false ↔
      ∀ x ∈ flattenNode [] root, ¬ (properPrefix d x.1 = true ∧ Pins keep x)) := fun hs => by
    rw [← Bool.not_eq_true, needed_list]
    simp only [mem_flattenList_below hwf hs, not_exists, not_and, and_imp]
  constructor
  · rintro ⟨cs, hs, hne, hf, h⟩
    exact ⟨⟨_, hs, rfl⟩, hne, hf, (hn hs).mp h⟩
  · rintro ⟨⟨m, hs, hk⟩, hne, hf, h⟩
    obtain ⟨cs, rfl⟩ := kind_eq_dir.mp hk.symm
    exact ⟨cs, hs, hne, hf, (hn hs).mpr h⟩

open Clean in
/-- **C04 (nothing outside the tree is ever queued).** Every queued path is an entry of the scanned tree (a regular file for
    the unlink queue, a directory for the rmdir queue): neither queue can name a path outside the cleaner's root. -/
theorem C04_queued_inside (keep : List Path) (root : Node) (hwf : wfNode root) (p : Path) :
    (p ∈ (scan keep root).filesQ → (p, Kind.file) ∈ flattenNode [] root) ∧
    (p ∈ (scan keep root).foldersQ → (p, Kind.dir) ∈ flattenNode [] root ∧ p ≠ []) :=
  queued_inside keep root p

open Clean in
/-- **C04 (kept content survives).** A kept path, and every path below a kept path, is in neither queue. -/
theorem C04_kept_survives (keep : List Path) (root : Node) (hwf : wfNode root) (k p : Path) (hk : k ∈ keep)
    (hp : isPrefix k p = true) : p ∉ (scan keep root).filesQ ∧ p ∉ (scan keep root).foldersQ :=
  kept_not_queued hk hp

open Clean in
/-- in a tree with distinct sibling names an entry is queued only in the queue of its kind -/
theorem queued_kind (keep : List Path) (root : Node) (hwf : wfNode root) {p : Path} {kd : Kind}
    (he : (p, kd) ∈ flattenNode [] root) :
    (p ∈ (scan keep root).filesQ → kd = .file) ∧ (p ∈ (scan keep root).foldersQ → kd = .dir) :=
  ⟨fun h => (Prod.mk.inj (flattenNode_unique hwf he ((C04_queued_inside keep root hwf p).1 h) rfl)).2,
   fun h => (Prod.mk.inj (flattenNode_unique hwf he ((C04_queued_inside keep root hwf p).2 h).1 rfl)).2⟩

open Clean in
/-- **C04 (symbolic links are never removed).** In a tree with distinct sibling names, a path that is a symbolic link is in
    neither queue. -/
theorem C04_symlink_never_queued (keep : List Path) (root : Node) (hwf : wfNode root) (p : Path)
    (h : (p, Kind.symlink) ∈ flattenNode [] root) : p ∉ (scan keep root).filesQ ∧ p ∉ (scan keep root).foldersQ :=
  ⟨fun hq => Kind.noConfusion ((queued_kind keep root hwf h).1 hq), fun hq => Kind.noConfusion ((queued_kind keep root hwf h).2 hq)⟩

open Clean in
/-- every entry of the tree below a queued directory is itself queued -/
theorem below_queued (keep : List Path) (root : Node) (hwf : wfNode root) (d : Path) (hd : d ∈ (scan keep root).foldersQ)
    (e : Path × Kind) (he : e ∈ flattenNode [] root) (hpp : properPrefix d e.1 = true) :
    e.1 ∈ (scan keep root).filesQ ∨ e.1 ∈ (scan keep root).foldersQ := by
  obtain ⟨hne, hf, hc⟩ := (spec_dir_false keep _ d).mp ((C04_folders_exact keep root hwf d).mp hd).2
  -- nothing on the way down to `e` is kept: not above `d` (the scan reached `d`), and below `d` it would pin `d`
  have hfe : Free keep [] e.1 := by
    intro t ht hk
    have hdt : properPrefix d t = true := by
      rcases List.prefix_or_prefix_of_prefix ht (properPrefix_iff_prefix.mp hpp).1 with h | h
      · exact absurd hk (hf t h)
      · exact properPrefix_iff_prefix.mpr ⟨h, fun e => hf t (e ▸ List.prefix_rfl) hk⟩
    by_cases hte : t = e.1
    · exact hc e he ⟨hpp, Or.inr (hte ▸ hk)⟩
    · exact hc _ (flattenNode_ancestor he ⟨t, rfl⟩ (properPrefix_iff_prefix.mpr ⟨ht, hte⟩)) ⟨hdt, Or.inr hk⟩
  obtain ⟨p, kd⟩ := e
  cases kd with
  | file => exact Or.inl ((C04_files_exact keep root p).mpr ⟨he, (spec_file_false keep _ p).mpr hfe⟩)
  | symlink => exact absurd ⟨hpp, Or.inl rfl⟩ (hc _ he)
  | dir =>
    refine Or.inr ((C04_folders_exact keep root hwf p).mpr ⟨he, (spec_dir_false keep _ p).mpr ⟨?_, hfe, ?_⟩⟩)
    · rintro rfl; simp [properPrefix] at hpp
    · exact fun x hx h => hc x hx ⟨properPrefix_trans hpp h.1, h.2⟩

open Clean in
/-- **C04 (executing the queues leaves exactly the specified survivors).** In a tree with distinct sibling names: unlinking
    the file queue and then removing the directory queue in order never meets a non-empty directory, and what is left is
    exactly the set of entries the specification lets survive — for every tree, keep set and nesting depth. -/
theorem C04_exec_exact (keep : List Path) (root : Node) (hwf : wfNode root) :
    execQueues (flattenNode [] root) (scan keep root) =
      some ((flattenNode [] root).filter (specSurvives keep (flattenNode [] root))) := by
  show (scan keep root).foldersQ.foldlM rmdirStep _ = _
  rw [rmdir_run (scan keep root).foldersQ _ (foldersQ_pairwise_node keep true [] root hwf), List.filter_filter]
  · congr 1
    apply List.filter_congr
    rintro ⟨p, kd⟩ he
    -- an entry survives iff it is in neither queue; it can only be in the queue of its kind
    have hk := queued_kind keep root hwf he
    have hnf : kd ≠ .file → p ∉ (scan keep root).filesQ := fun h hq => h (hk.1 hq)
    have hnd : kd ≠ .dir → p ∉ (scan keep root).foldersQ := fun h hq => h (hk.2 hq)
    rw [Bool.eq_iff_iff]
    cases kd with
    | symlink => simp [specSurvives, hnf, hnd]
    | file => simp [hnd, C04_files_exact keep root p, he]
    | dir => simp [hnf, C04_folders_exact keep root hwf p, he]
  · intro d hd e he hpp
    obtain ⟨he, hnf⟩ := List.mem_filter.mp he
    exact (below_queued keep root hwf d hd e he hpp).resolve_left (by simpa using hnf)

/-! ### non-vacuity: a concrete tree -/
open Clean in
private def exTree : Node := .dir [("pool", .dir [("a.deb", .file 3), ("old.deb", .file 5), ("empty", .dir [])]),
                                   ("link", .symlink), ("skip", .dir [("x", .file 7)])]
open Clean in
example : (scan [["pool", "a.deb"], ["skip"]] exTree).filesQ = [["pool", "old.deb"]] ∧
          (scan [["pool", "a.deb"], ["skip"]] exTree).foldersQ = [["pool", "empty"]] ∧
          (scan [["pool", "a.deb"], ["skip"]] exTree).bytesTotal = 8 := by decide

end AptMirror
