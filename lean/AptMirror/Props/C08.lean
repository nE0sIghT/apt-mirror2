import AptMirror.Props.C03
import AptMirror.Props.C05
import AptMirror.Lemmas.Mirror
/-!
# C08 — repeated runs converge and are idempotent

> After any sequence of upstream states and runs (including failed and interrupted ones), once a run exits 0 against upstream
> state V with cleaning enabled, the mirror tree equals — as a set of (path, size, content) — what a fresh mirror of V into
> an empty directory would contain. An immediately repeated run against the same V changes nothing, transfers no pool
> file and no unchanged metadata body, and every mirrored file's modification time equals the upstream Last-Modified it
> was served with.

Proved on the transfer model (the place where "already have it" decisions are made): a complete pool file is never requested
again (`C08_pool_no_transfer`); a metadata file whose size and date equal what the server announces is accepted without its
body being written (`C08_unchanged_no_body`); a file the tool has just downloaded carries the announced date on every one of
its paths (`C08_download_sets_date`) and is therefore "unmodified" for an immediately repeated request
(`C08_second_pass_unmodified`).

Proved on the whole-run model (`Model/Mirror.lean`: pool stage with the size short-cut, publish, clean, as one operation
sequence over the repository's mirror directory): what a run that ends without error leaves behind is a function of what it
needed, not of what it found — `C08_run_exact`, `C08_run_canonical` (any two prior trees give the same (path, size) set and
the same live metadata), `C08_run_content` (and the same pool contents, given that pool paths are immutable upstream, S1);
repeating the run changes nothing and transfers and removes nothing (`C08_run_idempotent`), and a body is only ever requested
for a path that did not hold a file of the declared size (`C08_transfer_only_if_absent`).  What remains outside the theorems:
that the needed lists are the same function of the upstream state in both runs (C09/C10 for the parsing and selection, the
correspondence harness for the glue), and the histories themselves, which are run on the implementation.
-/
namespace AptMirror

/-- **C08 (a complete pool file is not transferred again).** If some variant of a `check_size` file already has the
    declared size on disk, `download()` makes no request for it, leaves the filesystem alone and counts it unmodified. -/
theorem C08_pool_no_transfer (root : Path) (f : DFile) (s : DState) (hc : f.checkSize = true)
    (h : ∃ v ∈ f.iterVariants, s.fs.sizeAt (root ++ v.sourcePath) = some f.size) :
    (downloadOne root f s).reqs = s.reqs ∧ (downloadOne root f s).fs = s.fs ∧
    (downloadOne root f s).book.umCount = s.book.umCount + 1 ∧ (downloadOne root f s).book.dlCount = s.book.dlCount := by
  obtain ⟨v, h⟩ := downloadOne_shortcut hc h
  rw [h]
  exact ⟨rfl, rfl, rfl, rfl⟩

/-- **C08 (an unchanged metadata file is accepted without its body).** When the server announces the size and date the
    target already has, the attempt is accepted in the "unmodified" branch: no inode is created or written (`dat`, `next`
    unchanged), nothing is counted as downloaded. -/
theorem C08_unchanged_no_body (root : Path) (f : DFile) (v : Variant) (src : Path) (s s1 : DState) (err : Bool)
    (n : Nat) (d : Int) (body : Nat) (abort : Bool) (tag : Nat)
    (hreq : s.request src = (.ok (some n) (some d) body abort tag, s1))
    (hn : n ≠ 0) (hv : v.size = 0 ∨ v.size = n)
    (fd : FileData) (hdata : s.fs.dataAt (root ++ src) = some fd) (hsz : fd.size = n) (hmt : fd.mtime = some d) :
    ∃ s', attempt root f v src s err = .accept s' ∧ s'.fs.dat = s.fs.dat ∧ s'.fs.next = s.fs.next ∧
          s'.book.dlCount = s.book.dlCount ∧ s'.book.umCount = s.book.umCount + 1 := by
  have hfs : s1.fs = s.fs := by have := request_fs s src; rwa [hreq] at this
  have hbk : s1.book = s.book := by have := request_book s src; rwa [hreq] at this
  have hnu : needUpdate s1.fs (root ++ src) (some n) (some d) = false :=
    needUpdate_eq_false.mpr ⟨fd, n, d, hfs ▸ hdata, rfl, rfl, hn, hmt, hsz⟩
  have hst : sizeTruthy (some n) = true := by simp [sizeTruthy, hn]
  have hlen : ¬ (v.size > 0 ∧ sizeTruthy (some n) ∧ (some n : Option Nat) ≠ some v.size) := by
    rintro ⟨h1, _, h3⟩
    rcases hv with h | h
    · omega
    · exact h3 (by rw [h])
  -- the answer passes the tests of the unmodified case, so it is none of the other four
  refine attempt_cases root f v src s err (P := fun r => ∃ s', r = .accept s' ∧ s'.fs.dat = s.fs.dat ∧ s'.fs.next = s.fs.next ∧
    s'.book.dlCount = s.book.dlCount ∧ s'.book.umCount = s.book.umCount + 1) ?_ ?_ ?_ ?_ ?_
  · intro _ _ _ h hl; rw [hreq] at h; cases h; exact absurd (hl _ _ _ _ _ rfl) hlen
  · intro _ _ h _ hl; rw [hreq] at h; cases h; exact absurd (hl _ _ _ _ _ rfl) hlen
  · intro _ _ _ _ _ _ h _ hun _; rw [hreq] at h; cases h; exact absurd ⟨hst, by simp [hnu]⟩ hun
  · intro _ _ _ _ _ _ h _ _ _; rw [hreq] at h; cases h
    exact ⟨_, rfl, by simp only [linkOrCopy_dat, hfs], by simp only [linkOrCopy_next, hfs], by simp only [hbk], by simp only [hbk]⟩
  · intro _ _ _ _ _ _ h _ hun _ _; rw [hreq] at h; cases h; exact absurd ⟨hst, by simp [hnu]⟩ hun

/-- **C08 (modification times).** After the download branch (write, `utime`, link to every path of the variant), every path
    of the variant names a file of exactly the delivered size, carrying exactly the announced date. -/
theorem C08_download_sets_date (fs : FS) (p : Path) (n tag : Nat) (d : Int) (ts : List Path) (q : Path) (hq : q ∈ ts) :
    (linkOrCopy (utimeOpt (fs.rewrite p n tag) p (some d)) p ts).dataAt q = some { size := n, mtime := some d, tag := tag } := by
  rw [linkOrCopy_dataAt _ _ _ _ hq, utimeOpt_rewrite_dataAt]

/-- **C08 (idempotence of one file).** Straight after such a download, the same announcement (size = what was delivered,
    same date) makes `need_update` answer "no": an immediately repeated run takes the unmodified branch
    (`C08_unchanged_no_body`) and does not fetch the body again. -/
theorem C08_second_pass_unmodified (fs : FS) (p : Path) (n tag : Nat) (d : Int) (ts : List Path) (hp : p ∈ ts) (hn : n ≠ 0) :
    needUpdate (linkOrCopy (utimeOpt (fs.rewrite p n tag) p (some d)) p ts) p (some n) (some d) = false :=
  needUpdate_eq_false.mpr ⟨_, n, d, C08_download_sets_date fs p n tag d ts p hp, rfl, rfl, hn, rfl, rfl⟩

/-- a changed date or size does force a new transfer (so convergence is not bought by never updating) -/
theorem C08_changed_is_fetched (fs : FS) (p : Path) (fd : FileData) (h : fs.dataAt p = some fd) (n : Nat) (d : Int)
    (hch : fd.mtime ≠ some d ∨ fd.size ≠ n) : needUpdate fs p (some n) (some d) = true := by
  cases hnu : needUpdate fs p (some n) (some d) with
  | true => rfl
  | false =>
    obtain ⟨fd', _, _, h1, ⟨⟩, ⟨⟩, _, h5, h6⟩ := needUpdate_eq_false.mp hnu
    cases h.symm.trans h1
    exact (hch.elim (· h5) (· h6)).elim

/-! ## the whole run (L2) -/
namespace Mirror

/-- **C08 (the result is exactly what was needed).** After a run that ends without error with cleaning enabled: the live
    metadata is what this run obtained; every needed pool file is there with its declared size; nothing else is left outside
    skip-clean paths — whatever the tree looked like before (any history of versions, failed and killed runs). -/
theorem C08_run_exact (t : Tree) (need : Need) (hw : WF t) (hok : NeedOK need) :
    (run t need).dists = lookupMeta need.mfiles ∧
    (∀ n ∈ need.pool, ∃ f, (run t need).pool n.path = some f ∧ f.size = n.size) ∧
    (∀ q, (run t need).pool q ≠ none → keep need q = true) := by
  refine ⟨(run_effect t need hw).1, fun n hn => present_iff.mp (run_present t need hw hok n hn), fun q hq => ?_⟩
  rw [(run_effect t need hw).2] at hq
  exact Decidable.by_contra fun hk => hq (if_neg hk)

/-- **C08 (canonical form).** Two runs for the same needs from two arbitrary prior trees end with the same live metadata
    and, outside skip-clean paths, the same set of (path, size): the first-ever mirror (`t₂ = Tree.empty`) is one instance. -/
theorem C08_run_canonical (t₁ t₂ : Tree) (need : Need) (h₁ : WF t₁) (h₂ : WF t₂) (hok : NeedOK need) :
    (run t₁ need).dists = (run t₂ need).dists ∧
    ∀ q, need.keepExtra q = false → ((run t₁ need).pool q).map (·.size) = ((run t₂ need).pool q).map (·.size) := by
  refine ⟨by rw [(run_effect t₁ need h₁).1, (run_effect t₂ need h₂).1], fun q hx => ?_⟩
  cases hk : keep need q with
  | false => rw [(run_effect t₁ need h₁).2, (run_effect t₂ need h₂).2, hk]; rfl
  | true =>
    obtain ⟨n, hn, rfl⟩ : ∃ n ∈ need.pool, n.path = q := by simpa [keep, hx] using hk
    obtain ⟨f1, hf1, hs1⟩ := present_iff.mp (run_present t₁ need h₁ hok n hn)
    obtain ⟨f2, hf2, hs2⟩ := present_iff.mp (run_present t₂ need h₂ hok n hn)
    rw [hf1, hf2]; simp [hs1, hs2]

/-- **C08 (contents too, given immutable pool paths).** If whatever the prior tree holds at a needed path consists of bytes of
    the body the upstream serves for that path (S1; true of the empty tree and kept by every run, `K_exec`), the needed files
    end up byte-identical to the upstream's: complete size *and* the right body. -/
theorem C08_run_content (t : Tree) (need : Need) (hw : WF t) (hok : NeedOK need) (hk : K need t) :
    ∀ n ∈ need.pool, (run t need).pool n.path = some ⟨n.size, n.tag⟩ :=
  run_content t need hw hok hk

/-- **C08 (idempotence).** Repeating the run against the same needs performs no transfer and no removal — its only
    operation is publishing the same metadata again — and leaves the tree exactly as it was. -/
theorem C08_run_idempotent (t : Tree) (need : Need) (hw : WF t) (hok : NeedOK need) :
    runOps (run t need) need = [.swap need.mfiles] ∧ transfers (run t need) need = [] ∧ removals (run t need) need = [] ∧
    run (run t need) need = run t need := by
  have hp : poolOps (run t need) need.pool = [] := poolOps_nil_of_present _ _ (run_present t need hw hok)
  have hc : cleanOps (run t need) need = [] := by
    rw [cleanOps, List.map_eq_nil_iff, List.filter_eq_nil_iff]
    intro p _
    rw [(run_effect t need hw).2]
    cases keep need p <;> simp
  have hops : runOps (run t need) need = [.swap need.mfiles] := by simp [runOps, hp, exec_nil, hc]
  refine ⟨hops, by simp [transfers, hp], by simp [removals, hp, exec_nil, hc], ?_⟩
  show exec (runOps (run t need) need) (run t need) = run t need
  rw [hops]
  show { run t need with dists := lookupMeta need.mfiles } = run t need
  rw [← (run_effect t need hw).1]

/-- **C08 (no needless transfer).** A body is requested only for a path that did not already hold a file of the declared
    size when its turn came; in particular never for a file the previous run completed. -/
theorem C08_transfer_only_if_absent (t : Tree) (n : PoolNeed) (h : present t n = true) : fileOps t n = [] := by
  simp [fileOps, h]

end Mirror

/-! ### non-vacuity -/
private def needX : Mirror.Need :=
  { mfiles := [(["dists", "s", "Release"], ⟨10, 1⟩)],
    pool := [⟨["pool", "a.deb"], 5, 11, [2, 3]⟩, ⟨["pool", "b.deb"], 4, 12, [4]⟩],
    keepExtra := fun p => p.head? = some "keepme" }
private def treeX : Mirror.Tree :=
  { dists := fun _ => none,
    pool := fun p => if p = ["pool", "a.deb"] then some ⟨2, 11⟩ else if p = ["pool", "old.deb"] then some ⟨9, 13⟩ else none,
    dom := [["pool", "a.deb"], ["pool", "old.deb"]] }
example : Mirror.transfers treeX needX = [["pool", "a.deb"], ["pool", "b.deb"]] ∧ Mirror.removals treeX needX = [["pool", "old.deb"]] := by decide
example : (Mirror.run treeX needX).pool ["pool", "a.deb"] = some ⟨5, 11⟩ ∧ (Mirror.run treeX needX).pool ["pool", "old.deb"] = none := by decide
example : Mirror.transfers (Mirror.run treeX needX) needX = [] := by decide

private def fs0 : FS := FS.empty.addFile ["m", "Release"] { size := 5, mtime := some 77, tag := 3 }
example : needUpdate fs0 ["m", "Release"] (some 5) (some 77) = false := by decide
example : needUpdate fs0 ["m", "Release"] (some 5) (some 78) = true := by decide
example : needUpdate (linkOrCopy (utimeOpt (fs0.rewrite ["m", "Release"] 9 4) ["m", "Release"] (some 80)) ["m", "Release"] [["m", "Release"]])
    ["m", "Release"] (some 9) (some 80) = false := by decide

end AptMirror
