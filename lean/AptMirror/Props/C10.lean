import AptMirror.Model.Release
import AptMirror.Props.C01
/-!
# C10 — index selection follows configured codenames, components and architectures

> From a Release file the tool fetches every index group that belongs to a configured component and - for
> architecture-specific files (binary-<arch>, Contents-<arch>, Components- and Commands-<arch>) - to an
> architecture configured for it or to 'all', and source indices when sources are configured; it does not
> fetch entries of unconfigured components or architectures, binary indices when only sources are configured
> (and vice versa), release files listed inside Release, or entries with a non-positive size. All compression
> variants of one index form one group that is satisfied by any single variant (…) and an index is never
> published in a variant whose size differs from the Release entry.

Model: `Model/Select.lean` (`allowed`: the substring heuristics of `_metadata_file_allowed`, literally, on
the string of the path) and `Model/Release.lean` (`processEntry`: size / release-name / safety filters and
grouping).  Specification on *structured* entries (`Entry`, `render`, `mustFetch`, `mustNot`).

`C10_unconfigured_component` is unbounded: for **every** configuration and every entry `<component>/<dir>/<file>` (any strings
for the three parts, nested components included) whose component is not configured, the entry is not selected.

`C10_must` / `C10_mustnot` are **finite-universe theorems** (labelled as such, DESIGN §6): they hold for every configuration
and every entry of the representative universe below (3 components incl. a nested one + 1 unconfigurable component,
architectures amd64/i386/arm64/all, the 8 standard index kinds) — 243 configurations × 90 entries.  They are not the unbounded
statement over all names; the correspondence harness covers random universes against the real code.  The proof
(`universe_spec`) reasons about the configuration - any configuration whose architectures are amd64 and i386, whatever its
components - and leaves to kernel evaluation one table over the 90 entries.
-/
namespace AptMirror
open Str

inductive Kind | binaryPackages | binaryRelease | sources | contents | contentsSource | dep11 | cnf | i18n
deriving DecidableEq, Repr

structure Entry where
  comp : S
  kind : Kind
  arch : S
  ext : S
deriving DecidableEq, Repr

def render (e : Entry) : S :=
  let tail : S := match e.kind with
    | .binaryPackages => lit "binary-" ++ e.arch ++ lit "/Packages"
    | .binaryRelease => lit "binary-" ++ e.arch ++ lit "/Release"
    | .sources => lit "source/Sources"
    | .contents => lit "Contents-" ++ e.arch
    | .contentsSource => lit "Contents-source"
    | .dep11 => lit "dep11/Components-" ++ e.arch ++ lit ".yml"
    | .cnf => lit "cnf/Commands-" ++ e.arch
    | .i18n => lit "i18n/Translation-en"
  e.comp ++ ['/'] ++ tail ++ (if e.kind = .binaryRelease then [] else e.ext)

def isNested (comp : S) : Bool := comp.contains '/'

def archOK (k : Component) (a : S) : Bool := !k.arches.isEmpty && (k.arches.contains a || a = lit "all")

/-- what the property says MUST be fetched -/
def mustFetch (c : CodenameCfg) (e : Entry) : Bool :=
  match c.components.find? (·.name = e.comp) with
  | none => false
  | some k =>
    match e.kind with
    | .binaryPackages | .binaryRelease => archOK k e.arch
    | .dep11 | .cnf => archOK k e.arch
    | .contents => !isNested e.comp && archOK k e.arch
    | .sources => k.mirrorSource
    | .contentsSource => !isNested e.comp && k.mirrorSource
    | .i18n => !k.arches.isEmpty

/-- what the property says must NOT be fetched -/
def mustNot (c : CodenameCfg) (e : Entry) : Bool :=
  let allArches := c.components.flatMap (·.arches)
  match c.components.find? (·.name = e.comp) with
  | none => true
  | some k =>
    match e.kind with
    | .binaryPackages | .binaryRelease => !c.shouldMirrorBinaries || (!k.arches.contains e.arch && e.arch ≠ lit "all")
    | .dep11 | .cnf => !c.shouldMirrorBinaries || (!allArches.contains e.arch && e.arch ≠ lit "all")
    | .contents => !allArches.contains e.arch && e.arch ≠ lit "all"
    | .sources | .contentsSource => !c.shouldMirrorSource
    | .i18n => !c.shouldMirrorBinaries

/-! #### the representative universe -/
def uComps : List S := [lit "main", lit "contrib", lit "main/debian-installer"]
def archSets : List (List S) := [[], [lit "amd64"], [lit "i386"], [lit "amd64", lit "i386"]]

/-- options for one component: absent, or present with an architecture set and a source flag -/
def compOptions (name : S) (sets : List (List S)) : List (Option Component) :=
  none :: sets.flatMap fun a => [some { name := name, mirrorSource := false, arches := a },
                                 some { name := name, mirrorSource := true, arches := a }]

def uConfigs : List CodenameCfg :=
  (compOptions (lit "main") archSets).flatMap fun a =>
  (compOptions (lit "contrib") archSets).flatMap fun b =>
  ([none, some { name := lit "main/debian-installer", mirrorSource := false, arches := [lit "amd64"] },
    some { name := lit "main/debian-installer", mirrorSource := true, arches := [lit "amd64"] }] : List (Option Component)).map fun d =>
    { components := [a, b, d].filterMap id }

def uKinds : List Kind := [.binaryPackages, .binaryRelease, .sources, .contents, .contentsSource, .dep11, .cnf, .i18n]

/-- files directly below a nested component directory (`main/debian-installer/Contents-*`) are not a
    standard archive layout and are not part of the universe (DESIGN §8 S8) -/
def uEntries : List Entry :=
  ((uComps ++ [lit "non-free"]).flatMap fun c => uKinds.flatMap fun k =>
    [lit "amd64", lit "arm64", lit "all"].map fun a => { comp := c, kind := k, arch := a, ext := lit ".gz" }).filter
  fun e => !(isNested e.comp && (e.kind = .contents || e.kind = .contentsSource))

/-! #### deciding the universe

`allowed`, `mustFetch` and `mustNot` ask little of a configuration whose architectures are amd64 and i386 (`Obs`): whether some
component mirrors sources, whether some component lists amd64 / i386, and the record of the entry's component.  `allowed_abs`,
`mustFetch_abs`, `mustNot_abs` say so by reasoning, for every such configuration; what is left to evaluation is one table over
the 90 entries and the observations (`universe_table`). -/

/-- a list whose members are among `a` and `b` is seen by `any` only through which of the two it contains -/
theorem any_of_two {a b : S} {l : List S} (h : ∀ x ∈ l, x = a ∨ x = b) (p : S → Bool) :
    l.any p = (decide (a ∈ l) && p a || decide (b ∈ l) && p b) := by
  rw [Bool.eq_iff_iff]
  simp only [List.any_eq_true, Bool.or_eq_true, Bool.and_eq_true, decide_eq_true_eq]
  constructor
  · rintro ⟨x, hx, hp⟩
    rcases h x hx with rfl | rfl
    · exact .inl ⟨hx, hp⟩
    · exact .inr ⟨hx, hp⟩
  · rintro (⟨hx, hp⟩ | ⟨hx, hp⟩) <;> exact ⟨_, hx, hp⟩

theorem contains_of_two {a b : S} {l : List S} (h : ∀ x ∈ l, x = a ∨ x = b) (x : S) :
    l.contains x = (decide (a ∈ l) && decide (x = a) || decide (b ∈ l) && decide (x = b)) := by
  rw [List.contains_eq_any_beq, any_of_two h]
  simp only [Bool.beq_eq_decide_eq]

theorem isEmpty_of_two {a b : S} {l : List S} (h : ∀ x ∈ l, x = a ∨ x = b) :
    l.isEmpty = !(decide (a ∈ l) || decide (b ∈ l)) := by
  cases l with
  | nil => rfl
  | cons x l => rcases h x List.mem_cons_self with rfl | rfl <;> simp

/-- what is asked of a configuration: `src` - some component mirrors sources; `uA`, `uI` - some component lists amd64, i386;
    `k` - the record of the entry's component, if it is configured: its source flag, whether it lists amd64, i386 -/
structure Obs where
  (src uA uI : Bool)
  k : Option (Bool × Bool × Bool)

abbrev ArchesOK (c : CodenameCfg) : Prop := ∀ k ∈ c.components, ∀ a ∈ k.arches, a = lit "amd64" ∨ a = lit "i386"

def hasArch (c : CodenameCfg) (a : S) : Bool := decide (a ∈ c.components.flatMap (·.arches))

def obsOf (c : CodenameCfg) (comp : S) : Obs :=
  ⟨c.shouldMirrorSource, hasArch c (lit "amd64"), hasArch c (lit "i386"),
    (c.components.find? (·.name = comp)).map fun k => (k.mirrorSource, decide (lit "amd64" ∈ k.arches), decide (lit "i386" ∈ k.arches))⟩

/-- `allowed` with the configuration replaced by the observations -/
def allowedB (s : S) : Obs → Bool
  | ⟨src, uA, uI, k⟩ =>
    let name := baseName s
    let arch := uA && isInfix (lit "amd64") name || uI && isInfix (lit "i386") name || (uA || uI) && isInfix (lit "all") name
    if !src && (isInfix (lit "/source/") s || startsWith name (lit "Contents-source")) then false
    else if !(uA || uI) && [lit "/binary-", lit "/cnf/", lit "/dep11/", lit "/i18n/"].any (fun part => isInfix part s) then false
    else if !(match k with
        | none => false
        | some (_, kA, kI) => !(isInfix (lit "/binary-") s && !isInfix (lit "source") s &&
            (!(uA || uI) || !(kA && isInfix (lit "amd64") s || kI && isInfix (lit "i386") s || isInfix (lit "-all") s)))) then false
    else if [lit "Commands-", lit "Components-", lit "Contents-"].any (fun p => startsWith name p) &&
        !isInfix (lit "source") name && !arch then false
    else if isInfix (lit "Contents-") s && isInfix (lit ".diff") s && !arch then false
    else true

theorem ArchesOK.flat {c : CodenameCfg} (h : ArchesOK c) : ∀ a ∈ c.components.flatMap (·.arches), a = lit "amd64" ∨ a = lit "i386" :=
  fun a ha => let ⟨k, hk, hak⟩ := List.mem_flatMap.mp ha; h k hk a hak

theorem ArchesOK.bin {c : CodenameCfg} (h : ArchesOK c) :
    c.shouldMirrorBinaries = (hasArch c (lit "amd64") || hasArch c (lit "i386")) := by
  rw [← Bool.not_not (hasArch c _ || _), hasArch, hasArch, ← isEmpty_of_two h.flat, Bool.eq_iff_iff]
  simp [CodenameCfg.shouldMirrorBinaries]

/-- `allArches` of `allowed`, as `any` sees it -/
theorem ArchesOK.anyAll {c : CodenameCfg} (h : ArchesOK c) (p : S → Bool) {l : List S}
    (hl : l = (c.components.flatMap (·.arches)).eraseDups) :
    (if l.isEmpty then l else l ++ [lit "all"]).any p =
    (hasArch c (lit "amd64") && p (lit "amd64") || hasArch c (lit "i386") && p (lit "i386") ||
      (hasArch c (lit "amd64") || hasArch c (lit "i386")) && p (lit "all")) := by
  have hm : ∀ a, a ∈ l ↔ a ∈ c.components.flatMap (·.arches) := fun a => hl ▸ List.mem_eraseDups
  have h' : ∀ a ∈ l, a = lit "amd64" ∨ a = lit "i386" := fun a ha => h.flat a ((hm a).mp ha)
  have e : (if l.isEmpty then l else l ++ [lit "all"]).any p = (l.any p || !l.isEmpty && p (lit "all")) := by
    cases l <;> simp [Bool.or_assoc]
  rw [e, any_of_two h', isEmpty_of_two h', Bool.not_not]
  simp only [hm, hasArch]

theorem allowed_abs (c : CodenameCfg) (hc : ArchesOK c) (s comp : S) (h1 : 1 ≤ min (count '/' s) 2)
    (h2 : rsplitHead '/' (min (count '/' s) 2) s = comp) : allowed c s = allowedB s (obsOf c comp) := by
  unfold allowed allowedB obsOf
  simp only [hc.bin, hc.anyAll _ rfl, ge_iff_le, h1, if_true, h2]
  cases hk : c.components.find? (·.name = comp) with
  | none => rfl
  | some k =>
    have hk' := any_of_two (hc k (List.mem_of_find?_eq_some hk)) (fun a => isInfix a s)
    simp only [Option.map_some, List.any_append, hk', List.any_cons, List.any_nil, Bool.or_false]

def mustFetchB (e : Entry) : Obs → Bool
  | ⟨_, _, _, none⟩ => false
  | ⟨_, _, _, some (kS, kA, kI)⟩ =>
    let ok := (kA || kI) && ((kA && decide (e.arch = lit "amd64") || kI && decide (e.arch = lit "i386")) || e.arch = lit "all")
    match e.kind with
    | .binaryPackages | .binaryRelease => ok
    | .dep11 | .cnf => ok
    | .contents => !isNested e.comp && ok
    | .sources => kS
    | .contentsSource => !isNested e.comp && kS
    | .i18n => kA || kI

theorem mustFetch_abs (c : CodenameCfg) (hc : ArchesOK c) (e : Entry) : mustFetch c e = mustFetchB e (obsOf c e.comp) := by
  unfold mustFetch mustFetchB obsOf
  cases hk : c.components.find? (·.name = e.comp) with
  | none => rfl
  | some k =>
    have h := hc k (List.mem_of_find?_eq_some hk)
    simp only [Option.map_some, archOK, contains_of_two h, isEmpty_of_two h, Bool.not_not]

def mustNotB (e : Entry) : Obs → Bool
  | ⟨_, _, _, none⟩ => true
  | ⟨src, uA, uI, some (_, kA, kI)⟩ =>
    let anyHas := uA && decide (e.arch = lit "amd64") || uI && decide (e.arch = lit "i386")
    match e.kind with
    | .binaryPackages | .binaryRelease =>
      !(uA || uI) || (!(kA && decide (e.arch = lit "amd64") || kI && decide (e.arch = lit "i386")) && e.arch ≠ lit "all")
    | .dep11 | .cnf => !(uA || uI) || (!anyHas && e.arch ≠ lit "all")
    | .contents => !anyHas && e.arch ≠ lit "all"
    | .sources | .contentsSource => !src
    | .i18n => !(uA || uI)

theorem mustNot_abs (c : CodenameCfg) (hc : ArchesOK c) (e : Entry) : mustNot c e = mustNotB e (obsOf c e.comp) := by
  unfold mustNot mustNotB obsOf
  cases hk : c.components.find? (·.name = e.comp) with
  | none => rfl
  | some k =>
    have h := hc k (List.mem_of_find?_eq_some hk)
    simp only [Option.map_some, hc.bin, contains_of_two h, contains_of_two hc.flat, hasArch]

/-- the two clauses of the property, on observations -/
def specB (e : Entry) (s : S) (o : Obs) : Bool :=
  bif allowedB s o then !mustNotB e o else !mustFetchB e o

theorem specB_iff {e : Entry} {s : S} {o : Obs} : specB e s o = true ↔
    (mustFetchB e o = true → allowedB s o = true) ∧ (mustNotB e o = true → allowedB s o = false) := by
  unfold specB
  cases allowedB s o <;> simp

/-- the row of entry `e` with path `s`: the component the code extracts from `s` is the entry's, and the two clauses hold for all
    observations - with the component unconfigured, or with a record that shows no more than some component does -/
abbrev RowOK (e : Entry) (s : S) : Prop :=
  1 ≤ min (count '/' s) 2 ∧ rsplitHead '/' (min (count '/' s) 2) s = e.comp ∧
  ∀ src uA uI : Bool, specB e s ⟨src, uA, uI, none⟩ ∧
    ∀ kS : Bool, (kS → src) → ∀ kA : Bool, (kA → uA) → ∀ kI : Bool, (kI → uI) → specB e s ⟨src, uA, uI, some (kS, kA, kI)⟩

/-- hands `g` the list `l` rebuilt cell by cell: the kernel evaluates lazily, and a path left as the appends of `render` would
    be taken apart again by every string test -/
def forceList (l : S) (g : S → Bool) : Bool :=
  match l with
  | [] => g []
  | c :: cs => forceList cs fun cs' => g (c :: cs')

theorem forceList_eq (l : S) (g : S → Bool) : forceList l g = g l := by
  induction l generalizing g with
  | nil => rfl
  | cons c cs ih => exact ih _

/-- **the finite table**, 90 rows -/
theorem universe_table : ∀ e ∈ uEntries, forceList (render e) (fun s => decide (RowOK e s)) = true := by decide +kernel

/-- the two clauses hold of every entry of the universe for **every** configuration whose architectures are amd64 and i386,
    whatever its components are called and however many there are -/
theorem universe_spec {c : CodenameCfg} (hc : ArchesOK c) {e : Entry} (he : e ∈ uEntries) :
    (mustFetch c e = true → allowed c (render e) = true) ∧ (mustNot c e = true → allowed c (render e) = false) := by
  obtain ⟨h1, h2, ht⟩ : RowOK e (render e) := of_decide_eq_true ((forceList_eq _ _).symm.trans (universe_table e he))
  obtain ⟨hnone, hsome⟩ := ht c.shouldMirrorSource (hasArch c (lit "amd64")) (hasArch c (lit "i386"))
  rw [allowed_abs c hc _ _ h1 h2, mustFetch_abs c hc, mustNot_abs c hc]
  unfold obsOf
  cases hk : c.components.find? (·.name = e.comp) with
  | none => exact specB_iff.mp hnone
  | some k =>
    have hm := List.mem_of_find?_eq_some hk
    have hin : ∀ a, decide (a ∈ k.arches) = true → hasArch c a = true := fun a h =>
      decide_eq_true (List.mem_flatMap.mpr ⟨k, hm, of_decide_eq_true h⟩)
    exact specB_iff.mp (hsome _ (fun h => List.any_eq_true.mpr ⟨k, hm, h⟩) _ (hin _) _ (hin _))

theorem uConfigs_arches : ∀ c ∈ uConfigs, ArchesOK c := by decide +kernel

/-- **C10 (must fetch; finite universe).** -/
theorem C10_must (c : CodenameCfg) (hc : c ∈ uConfigs) (e : Entry) (he : e ∈ uEntries) (h : mustFetch c e = true) :
    allowed c (render e) = true :=
  (universe_spec (uConfigs_arches c hc) he).1 h

/-- **C10 (must not fetch; finite universe).** -/
theorem C10_mustnot (c : CodenameCfg) (hc : c ∈ uConfigs) (e : Entry) (he : e ∈ uEntries) (h : mustNot c e = true) :
    allowed c (render e) = false :=
  (universe_spec (uConfigs_arches c hc) he).2 h

/-! ### unbounded: entries of unconfigured components are never selected -/

theorem splitOn_ne_nil (ch : Char) (s : S) : splitOn ch s ≠ [] := by
  fun_cases splitOn ch s <;> simp

theorem splitOn_nosep (ch : Char) (d : S) (h : ch ∉ d) : splitOn ch d = [d] := by
  induction d with
  | nil => rfl
  | cons c cs ih =>
    rw [List.mem_cons, not_or] at h
    simp only [splitOn, Ne.symm h.1, if_false, ih h.2]

theorem splitOn_append_sep (ch : Char) (a b : S) : splitOn ch (a ++ ch :: b) = splitOn ch a ++ splitOn ch b := by
  induction a with
  | nil => simp [splitOn]
  | cons c cs ih =>
    simp only [List.cons_append, splitOn, ih]
    split
    · rfl
    · cases h : splitOn ch cs with
      | nil => exact absurd h (splitOn_ne_nil ch cs)
      | cons f fs => rfl

theorem join_splitOn (ch : Char) (s : S) : join [ch] (splitOn ch s) = s := by
  induction s with
  | nil => rfl
  | cons c cs ih =>
    unfold splitOn
    cases h : splitOn ch cs with
    | nil => exact absurd h (splitOn_ne_nil ch cs)
    | cons f fs =>
      rw [h] at ih
      split
      · simp only [join, List.nil_append, List.singleton_append, ih, ‹c = ch›]
      · cases fs <;> simp only [join, List.cons_append, List.cons.injEq, true_and] at ih ⊢ <;> exact ih

/-- the component the code extracts from `<component>/<dir>/<file>` is `<component>` -/
theorem rsplitHead_two (comp d f : S) (hd : '/' ∉ d) (hf : '/' ∉ f) :
    rsplitHead '/' 2 (comp ++ '/' :: d ++ '/' :: f) = comp := by
  unfold rsplitHead
  rw [List.append_assoc, List.cons_append, splitOn_append_sep, splitOn_append_sep, splitOn_nosep '/' d hd,
    splitOn_nosep '/' f hf]
  have hn : (splitOn '/' comp).length ≠ 0 := fun h => splitOn_ne_nil '/' comp (List.length_eq_zero_iff.mp h)
  have hlen : (splitOn '/' comp ++ ([d] ++ [f])).length - min 2 ((splitOn '/' comp ++ ([d] ++ [f])).length - 1) =
      (splitOn '/' comp).length := by
    simp only [List.length_append, List.length_cons, List.length_nil]; omega
  simp only [hlen, List.take_left' rfl, join_splitOn]

/-- What passing the first three guards of `allowed` means: the source guard, the binaries guard, and - when the path has a
    directory part - that its first component(s) name a configured component whose architectures cover a binary index. -/
theorem allowed_guards (c : CodenameCfg) (s : S) (h : allowed c s = true) :
    (!c.shouldMirrorSource && (isInfix (lit "/source/") s || startsWith (baseName s) (lit "Contents-source"))) = false ∧
    (!c.shouldMirrorBinaries &&
      [lit "/binary-", lit "/cnf/", lit "/dep11/", lit "/i18n/"].any (fun part => isInfix part s)) = false ∧
    (1 ≤ min (count '/' s) 2 →
      ∃ k, c.components.find? (·.name = rsplitHead '/' (min (count '/' s) 2) s) = some k ∧
        (isInfix (lit "/binary-") s && !isInfix (lit "source") s &&
          (!c.shouldMirrorBinaries || !(k.arches ++ [lit "-all"]).any (fun a => isInfix a s))) = false) := by
  revert h
  fun_cases allowed c s <;> intro h
  iterate 5 cases h
  rename_i h1 h2 _ _ h3 _ _ _ _
  refine ⟨eq_false_of_ne_true h1, eq_false_of_ne_true h2, fun hs => ?_⟩
  simp +zetaDelta only [ge_iff_le, hs, if_true, Bool.not_eq_true, Bool.not_eq_false'] at h3
  split at h3
  · cases h3
  · exact ⟨_, ‹_›, by rwa [Bool.not_eq_true'] at h3⟩

/-- an entry `<component>/<dir>/<file>` that is selected belongs to a configured component (the first record of that name),
    and if it is a binary index the component's architectures cover it -/
theorem allowed_entry (c : CodenameCfg) (comp d f s : S) (hs : s = comp ++ '/' :: d ++ '/' :: f) (hd : '/' ∉ d) (hf : '/' ∉ f)
    (h : allowed c s = true) :
    ∃ k, c.components.find? (·.name = comp) = some k ∧
      (isInfix (lit "/binary-") s && !isInfix (lit "source") s &&
        (!c.shouldMirrorBinaries || !(k.arches ++ [lit "-all"]).any (fun a => isInfix a s))) = false := by
  have hmin : min (count '/' s) 2 = 2 := by
    rw [hs, count]
    simp only [List.count_append, List.count_cons_self]
    omega
  have := (allowed_guards c s h).2.2
  rwa [hmin, hs, rsplitHead_two comp d f hd hf, ← hs, imp_iff_right (by decide)] at this

/-- **C10 (entries of unconfigured components are not fetched; unbounded).** Whatever the configuration, an entry
    `<component>/<dir>/<file>` — `<component>` any string, nested ones (`main/debian-installer`) included, `<dir>` and `<file>` any
    names without a slash — whose component is not configured for the codename is never selected. -/
theorem C10_unconfigured_component (c : CodenameCfg) (comp d f : S) (hd : '/' ∉ d) (hf : '/' ∉ f)
    (hc : ∀ k ∈ c.components, k.name ≠ comp) : allowed c (comp ++ '/' :: d ++ '/' :: f) = false := by
  cases h : allowed c (comp ++ '/' :: d ++ '/' :: f) with
  | false => rfl
  | true =>
    obtain ⟨k, hk, _⟩ := allowed_entry c comp d f _ rfl hd hf h
    exact absurd (by simpa using List.find?_some hk) (hc k (List.mem_of_find?_eq_some hk))

-- `String.toList_ofList` first: the kernel is slow to decode `"…".toList` of a literal (superlinear in its length);
-- the rewrite puts the character list in its place without evaluating anything.
example : allowed { components := [{ name := lit "main", mirrorSource := true, arches := [lit "amd64"] }] }
    (lit "main/debian-installer/binary-amd64/Packages.xz") = false := by
  have e : lit "main/debian-installer/binary-amd64/Packages.xz" =
      lit "main/debian-installer" ++ '/' :: lit "binary-amd64" ++ '/' :: lit "Packages.xz" := by
    unfold lit; repeat rw [String.toList_ofList]
    rfl
  rw [e]
  apply C10_unconfigured_component <;> unfold lit <;> repeat rw [String.toList_ofList]
  all_goals decide

/-- **C10 (binary indices when only sources are configured; unbounded).** If no component of the codename has an architecture,
    nothing whose path contains `/binary-`, `/cnf/`, `/dep11/` or `/i18n/` is selected - whatever the names. -/
theorem C10_sources_only (c : CodenameCfg) (s : S) (hb : c.shouldMirrorBinaries = false)
    (hs : isInfix (lit "/binary-") s = true ∨ isInfix (lit "/cnf/") s = true ∨ isInfix (lit "/dep11/") s = true ∨
      isInfix (lit "/i18n/") s = true) : allowed c s = false := by
  cases h : allowed c s with
  | false => rfl
  | true =>
    have := (allowed_guards c s h).2.1
    simp only [hb, Bool.not_false, Bool.true_and, List.any_cons, List.any_nil, Bool.or_false, Bool.or_eq_false_iff] at this
    obtain ⟨h1, h2, h3, h4⟩ := this
    rcases hs with e | e | e | e <;> simp_all

/-- **C10 (source indices when only binaries are configured; unbounded).** If no component mirrors sources, nothing below a
    `/source/` directory and no `Contents-source*` file is selected. -/
theorem C10_binaries_only (c : CodenameCfg) (s : S) (hsrc : c.shouldMirrorSource = false)
    (hs : isInfix (lit "/source/") s = true ∨ startsWith (baseName s) (lit "Contents-source") = true) : allowed c s = false := by
  cases h : allowed c s with
  | false => rfl
  | true =>
    have := (allowed_guards c s h).1
    simp only [hsrc, Bool.not_false, Bool.true_and, Bool.or_eq_false_iff] at this
    rcases hs with e | e <;> simp_all

/-- **C10 (binary index of an unconfigured architecture; unbounded, under the guard the substring heuristics force).** For
    `<component>/<dir>/<file>` with a `/binary-` part and no `source` in it: if the component's record (the first one of that
    name) lists no architecture that occurs as a substring of the path, and `-all` does not occur either, the entry is not
    selected.  (Without the guard the statement is false of the code: an architecture that is a substring of another one's
    name is matched - the reason why the exact clause is decided over a finite universe of real names, `C10_mustnot`.) -/
theorem C10_unconfigured_arch (c : CodenameCfg) (k : Component) (d f : S) (hd : '/' ∉ d) (hf : '/' ∉ f)
    (hk : c.components.find? (fun x => decide (x.name = k.name)) = some k)
    (hbin : isInfix (lit "/binary-") (k.name ++ '/' :: d ++ '/' :: f) = true)
    (hnosrc : isInfix (lit "source") (k.name ++ '/' :: d ++ '/' :: f) = false)
    (hnone : ∀ a ∈ k.arches ++ [lit "-all"], isInfix a (k.name ++ '/' :: d ++ '/' :: f) = false) :
    allowed c (k.name ++ '/' :: d ++ '/' :: f) = false := by
  cases h : allowed c (k.name ++ '/' :: d ++ '/' :: f) with
  | false => rfl
  | true =>
    obtain ⟨k', hk', hb⟩ := allowed_entry c k.name d f _ rfl hd hf h
    cases hk.symm.trans hk'
    rw [hbin, hnosrc, List.any_eq_false.mpr fun a ha => ne_true_of_eq_false (hnone a ha)] at hb
    simp at hb

example : allowed { components := [{ name := lit "main", mirrorSource := false, arches := [lit "amd64"] }] }
    (lit "main/binary-i386/Packages.xz") = false := by
  have e : lit "main/binary-i386/Packages.xz" = lit "main" ++ '/' :: lit "binary-i386" ++ '/' :: lit "Packages.xz" := by
    unfold lit; repeat rw [String.toList_ofList]
    rfl
  rw [e]
  apply C10_unconfigured_arch _ { name := lit "main", mirrorSource := false, arches := [lit "amd64"] } <;> unfold lit <;>
    repeat rw [String.toList_ofList]
  all_goals decide

example : allowed { components := [{ name := lit "main", mirrorSource := true, arches := [] }] } (lit "main/binary-amd64/Packages") = false :=
by
  apply C10_sources_only _ _ (by decide) (Or.inl ?_)
  unfold lit; repeat rw [String.toList_ofList]
  decide

example : allowed { components := [{ name := lit "main", mirrorSource := false, arches := [lit "amd64"] }] } (lit "main/source/Sources.xz") = false :=
by
  apply C10_binaries_only _ _ (by decide) (Or.inl ?_)
  unfold lit; repeat rw [String.toList_ofList]
  decide

/-- **C10 (non-positive sizes, release files inside Release, unsafe names are never selected)** — for every
    release file, policy, configuration and prior groups (unbounded). -/
theorem C10_filtered (f : RelFile) (policy : Cfg.ByHashOpt) (sel : SelCfg) (ign : List Path) (a : Algo) (g : Groups)
    (e : RelEntry) (h : parseSize e.sizeRaw ≤ 0 ∨ isReleaseName e.name = true ∨ lexSafe e.parts = false ∨
      sel.allowed (pathStr e.parts) = false) :
    processEntry f policy sel ign a g e = g := by
  unfold processEntry
  rcases h with h | h | h | h
  · by_cases h1 : lexSafe e.parts = true <;> simp [h1, h]
  · by_cases h1 : lexSafe e.parts = true <;> by_cases h2 : parseSize e.sizeRaw ≤ 0 <;> simp [h1, h2, h]
  · simp [h]
  · by_cases h1 : lexSafe e.parts = true <;> by_cases h2 : parseSize e.sizeRaw ≤ 0 <;>
      by_cases h3 : isReleaseName e.name = true <;> simp [h1, h2, h3, h]

/-- **C10 (a group is satisfied by any single variant).** A clean index stage has obtained, for every
    group, at least one of its variants — which one does not matter, and the unavailability of the others is
    not an error (corollary of `C01_clean_stage_all_obtained`; the variants of one group are tried in turn by
    `tryVariants` and the first acceptable one ends the transfer). -/
theorem C10_group_any_variant (root : Path) (q : List DFile) (s : DState)
    (h0 : s.book.errCount = 0 ∧ s.book.missCount = 0)
    (hclean : (download root q s).book.errCount = 0 ∧ (download root q s).book.missCount = 0)
    (f : DFile) (hf : f ∈ q) (hi : f.ignoreErrors = false) (hm : f.ignoreMissing = false) :
    ∃ v ∈ f.variants, v ∈ Reported (download root q s) :=
  C01_clean_stage_all_obtained root q s h0 hclean f hf hi hm

/-- **C10 (a published variant has the size the Release lists).** Every variant of a group built from Release
    entries carries the size of its own entry (no unsized variant exists after fix ab648fb), and an obtained
    variant has exactly that size on disk (`C05_obtained_sound_partial`). -/
theorem C10_variant_size (p : Path) (size : Nat) (a : Algo) (h : String) (bh : Bool) :
    ∀ v ∈ (DFile.fromHashedPath p size a h bh).variants, v.size = size ∧ v.path = p := by
  intro v hv
  unfold DFile.fromHashedPath DFile.addVariant at hv
  by_cases hc : compOfSuffix (suffixOf p) = Comp.none
  · simp [hc] at hv; rw [hv]; exact ⟨rfl, rfl⟩
  · simp [hc] at hv; rw [hv]; exact ⟨rfl, rfl⟩

/-! ### non-vacuity -/
example : uConfigs.length = 243 ∧ uEntries.length = 90 := by decide +kernel
example : render { comp := lit "main", kind := .binaryPackages, arch := lit "amd64", ext := lit ".xz" } = lit "main/binary-amd64/Packages.xz" := by
  unfold render lit; repeat rw [String.toList_ofList]
  decide

end AptMirror
