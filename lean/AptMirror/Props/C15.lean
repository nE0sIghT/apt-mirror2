import AptMirror.Model.Interleave
/-!
# C15 — the result does not depend on the order in which transfers complete

> For a fixed configuration, upstream state and per-path fault plan, the final mirror tree (paths, sizes,
> contents), the sets of files reported obtained and failed, and the exit status are the same for every order
> in which concurrent transfers start, progress chunk by chunk and finish, and for every hash-seed-dependent
> queue order.

Model: `Model/Interleave.lean` — keyed state, one task per queued file, `taskStep` = next attempt of a task, a
schedule = list of task ids.  `C15_order_independent`: two schedules that are permutations of each other (same
number of steps per task, any interleaving) end in the *same state* — all target slots, all scripts and request
counts, all task records (reported variant, outcome, bytes).  Hypothesis `Disjoint`: distinct tasks never share a
target name or a URL — forced by the proof; at the excluded point the real code is schedule dependent (finding
F-C05a, two index files with identical content share a by-hash target).  Per-path fault plans are the scripts;
timing-dependent aborts (slow rate) and rate-limit delays are part of the plan (DESIGN §8 S9).
-/
namespace AptMirror
namespace Interleave

theorem advance_file (t : Task) : t.advance.file = t.file := by
  fun_cases Task.advance t <;> rfl

/-- Every branch of `localStep` rewrites the slots of its view in place and at most `advance`s the task. -/
theorem localStep_keeps (root : Path) (w : View) :
    (localStep root w).slots.map (·.1) = w.slots.map (·.1) ∧ (localStep root w).task.file = w.task.file := by
  fun_cases localStep root w <;>
    simp +zetaDelta only [List.map_map, Function.comp_def, apply_ite Prod.fst, apply_ite Task.file, advance_file,
      ite_self, and_self]

theorem lookup_eq_none_iff_keys {α} (l : List (Path × α)) (q : Path) : l.lookup q = none ↔ q ∉ l.map (·.1) := by
  simp only [List.lookup_eq_none_iff, List.mem_map, bne_iff_ne, ne_eq, not_exists, not_and]
  exact ⟨fun h p hp e => h p hp e.symm, fun h p hp e => h p hp e.symm⟩

/-- the patch of an attempt is keyed by the current targets -/
theorem patch_lookup_none (root : Path) (i : Nat) (src : Path) (s : KState) (q : Path) :
    (localStep root (view root i src s)).slots.lookup q = none ↔ q ∉ curTargets root (s.tasks i) := by
  rw [lookup_eq_none_iff_keys, (localStep_keeps _ _).1]
  simp [view, Function.comp_def]

/-- the current alias and targets lie inside the static footprint of the task's file -/
theorem cur_in_footprint (root : Path) (t : Task) :
    (∀ src, curAlias t = some src → src ∈ fpUrls t.file) ∧ ∀ p ∈ curTargets root t, p ∈ fpFiles root t.file := by
  have key : ∀ v src, curVariant t = some v → curAlias t = some src → v ∈ t.file.iterVariants ∧ src ∈ v.allPaths := by
    intro v src hv hs
    unfold curAlias at hs
    rw [hv] at hs
    exact ⟨List.mem_of_getElem? hv, List.mem_of_getElem? hs⟩
  constructor
  · intro src hs
    cases hv : curVariant t with
    | none => simp [curAlias, hv] at hs
    | some v => exact List.mem_flatMap.mpr ⟨v, key v src hv hs⟩
  · intro p hp
    unfold curTargets at hp
    split at hp
    · rename_i v src hv hs
      obtain ⟨hvm, hsm⟩ := key v src hv hs
      refine List.mem_flatMap.mpr ⟨v, hvm, ?_⟩
      rcases List.mem_cons.mp hp with rfl | hp
      · exact List.mem_map.mpr ⟨src, hsm, rfl⟩
      · exact hp
    · cases hp

/-- distinct tasks never share a target name or a URL -/
def Disjoint (root : Path) (s : KState) : Prop :=
  ∀ i j, i ≠ j → (∀ p ∈ fpFiles root (s.tasks i).file, p ∉ fpFiles root (s.tasks j).file) ∧
                  (∀ u ∈ fpUrls (s.tasks i).file, u ∉ fpUrls (s.tasks j).file)

theorem step_fin (root : Path) (i : Nat) (s : KState) (h : (s.tasks i).finished = true) : taskStep root i s = s := by
  unfold taskStep; rw [if_pos h]

theorem step_noalias (root : Path) (i : Nat) (s : KState) (hnf : (s.tasks i).finished = false)
    (ha : curAlias (s.tasks i) = none) :
    taskStep root i s =
      { s with tasks := fun j => if j = i then { s.tasks i with finished := true, outcome := 4 } else s.tasks j } := by
  unfold taskStep; rw [if_neg (by simp [hnf]), ha]

theorem step_alias (root : Path) (i : Nat) (s : KState) (src : Path) (hnf : (s.tasks i).finished = false)
    (ha : curAlias (s.tasks i) = some src) :
    taskStep root i s = applyPatch s i src (localStep root (view root i src s)) := by
  unfold taskStep; rw [if_neg (by simp [hnf]), ha]

/-- what a step of task `i` leaves alone -/
theorem taskStep_frame (root : Path) (i : Nat) (s : KState) (src : Path) (hsrc : curAlias (s.tasks i) = some src)
    (hnf : (s.tasks i).finished = false) :
    (∀ q, q ∉ curTargets root (s.tasks i) → (taskStep root i s).files q = s.files q) ∧
    (∀ u, u ≠ src → (taskStep root i s).scripts u = s.scripts u ∧ (taskStep root i s).reqs u = s.reqs u) := by
  rw [step_alias root i s src hnf hsrc]
  exact ⟨fun q hq => by simp only [applyPatch, (patch_lookup_none root i src s q).mpr hq], fun u hu => ⟨if_neg hu, if_neg hu⟩⟩

/-- **frame**: a step of task `i` leaves alone every other task, every name that is not a current target of `i` and every
    URL that is not its current alias -/
theorem taskStep_off (root : Path) (i : Nat) (s : KState) :
    (∀ k, k ≠ i → (taskStep root i s).tasks k = s.tasks k) ∧
    (∀ q, q ∉ curTargets root (s.tasks i) → (taskStep root i s).files q = s.files q) ∧
    (∀ u, curAlias (s.tasks i) ≠ some u → (taskStep root i s).scripts u = s.scripts u) ∧
    (∀ u, curAlias (s.tasks i) ≠ some u → (taskStep root i s).reqs u = s.reqs u) := by
  cases hfin : (s.tasks i).finished with
  | true => rw [step_fin root i s hfin]; exact ⟨fun _ _ => rfl, fun _ _ => rfl, fun _ _ => rfl, fun _ _ => rfl⟩
  | false =>
    cases ha : curAlias (s.tasks i) with
    | none =>
      rw [step_noalias root i s hfin ha]
      exact ⟨fun k hk => if_neg hk, fun _ _ => rfl, fun _ _ => rfl, fun _ _ => rfl⟩
    | some src =>
      obtain ⟨hf, hu⟩ := taskStep_frame root i s src ha hfin
      have hne : ∀ u, some src ≠ some u → u ≠ src := fun u h e => h (e ▸ rfl)
      refine ⟨fun k hk => ?_, hf, fun u h => (hu u (hne u h)).1, fun u h => (hu u (hne u h)).2⟩
      rw [step_alias root i s src hfin ha]; exact if_neg hk

/-- **locality**: a step of task `i` reads only its own record, the script and request count of its current alias and the
    slots of its current targets; what it writes there depends on nothing else -/
theorem taskStep_on (root : Path) (i : Nat) (s s' : KState) (ht : s'.tasks i = s.tasks i)
    (hf : ∀ q ∈ curTargets root (s.tasks i), s'.files q = s.files q)
    (hs : ∀ u, curAlias (s.tasks i) = some u → s'.scripts u = s.scripts u)
    (hr : ∀ u, curAlias (s.tasks i) = some u → s'.reqs u = s.reqs u) :
    (taskStep root i s').tasks i = (taskStep root i s).tasks i ∧
    (∀ q ∈ curTargets root (s.tasks i), (taskStep root i s').files q = (taskStep root i s).files q) ∧
    (∀ u, curAlias (s.tasks i) = some u → (taskStep root i s').scripts u = (taskStep root i s).scripts u) ∧
    (∀ u, curAlias (s.tasks i) = some u → (taskStep root i s').reqs u = (taskStep root i s).reqs u) := by
  cases hfin : (s.tasks i).finished with
  | true => rw [step_fin root i s hfin, step_fin root i s' (ht ▸ hfin)]; exact ⟨ht, hf, hs, hr⟩
  | false =>
    cases ha : curAlias (s.tasks i) with
    | none =>
      rw [step_noalias root i s hfin ha, step_noalias root i s' (ht ▸ hfin) (ht ▸ ha)]
      exact ⟨by simp only [if_true, ht], hf, nofun, nofun⟩
    | some src =>
      have hv : view root i src s' = view root i src s := by
        simp only [view, ht, hs src ha, hr src ha]
        congr 1
        exact List.map_congr_left fun q hq => by rw [hf q hq]
      rw [step_alias root i s src hfin ha, step_alias root i s' src (ht ▸ hfin) (ht ▸ ha), hv]
      refine ⟨by simp only [applyPatch, if_true], fun q hq => ?_,
        fun u hu => by cases hu; simp only [applyPatch, if_true], fun u hu => by cases hu; simp only [applyPatch, if_true]⟩
      simp only [applyPatch]
      split
      · rfl
      · exact hf q hq

/-- Two updates `f`, `g` of a function `s` that each change it only on their own region (`P`, `Q`, disjoint) and whose values
    there do not depend on whether the other has been applied give the same result in either order. -/
theorem updates_commute {α β} {P Q : α → Prop} (hPQ : ∀ x, P x → ¬ Q x) {s fs gs fgs gfs : α → β}
    (hf : ∀ x, ¬ P x → fs x = s x) (hg : ∀ x, ¬ Q x → gs x = s x)
    (hfg : ∀ x, ¬ P x → fgs x = gs x) (hgf : ∀ x, ¬ Q x → gfs x = fs x)
    (hfl : ∀ x, P x → fgs x = fs x) (hgl : ∀ x, Q x → gfs x = gs x) : fgs = gfs := by
  funext x
  by_cases hp : P x
  · rw [hfl x hp, hgf x (hPQ x hp)]
  · by_cases hq : Q x
    · rw [hfg x hp, hgl x hq]
    · rw [hfg x hp, hgf x hq, hg x hq, hf x hp]

theorem taskStep_file (root : Path) (i j : Nat) (s : KState) : ((taskStep root i s).tasks j).file = (s.tasks j).file := by
  by_cases h : j = i
  · subst h
    cases hfin : (s.tasks j).finished with
    | true => rw [step_fin root j s hfin]
    | false =>
      cases ha : curAlias (s.tasks j) with
      | none => rw [step_noalias root j s hfin ha]; simp only [if_true]
      | some src => rw [step_alias root j s src hfin ha]; simp only [applyPatch, if_true]; exact (localStep_keeps _ _).2
  · rw [(taskStep_off root i s).1 j h]

theorem taskStep_disjoint (root : Path) (i : Nat) (s : KState) (h : Disjoint root s) : Disjoint root (taskStep root i s) := by
  intro a b hab
  simp only [taskStep_file]
  exact h a b hab

theorem KState.ext' (a b : KState) (h1 : a.files = b.files) (h2 : a.scripts = b.scripts) (h3 : a.reqs = b.reqs)
    (h4 : a.tasks = b.tasks) : a = b := by
  cases a; cases b; simp only at h1 h2 h3 h4; subst h1 h2 h3 h4; rfl

/-- **commutation.**  Attempts of two tasks whose current targets and current aliases are disjoint commute: each leaves alone
    what the other reads and writes (`taskStep_off`), so neither notices the other (`taskStep_on`). -/
theorem taskStep_comm (root : Path) (i j : Nat) (hij : i ≠ j) (s : KState)
    (hq : ∀ q, q ∈ curTargets root (s.tasks i) → ¬ q ∈ curTargets root (s.tasks j))
    (hu : ∀ u, curAlias (s.tasks i) = some u → ¬ curAlias (s.tasks j) = some u) :
    taskStep root i (taskStep root j s) = taskStep root j (taskStep root i s) := by
  obtain ⟨ti, fi, si, ri⟩ := taskStep_off root i s
  obtain ⟨tj, fj, sj, rj⟩ := taskStep_off root j s
  have hti := tj i hij
  have htj := ti j hij.symm
  obtain ⟨ti', fi', si', ri'⟩ := taskStep_off root i (taskStep root j s)
  obtain ⟨tj', fj', sj', rj'⟩ := taskStep_off root j (taskStep root i s)
  rw [hti] at fi' si' ri'
  rw [htj] at fj' sj' rj'
  obtain ⟨li, lfi, lsi, lri⟩ := taskStep_on root i s (taskStep root j s) hti
    (fun q h => fj q (hq q h)) (fun u h => sj u (hu u h)) (fun u h => rj u (hu u h))
  obtain ⟨lj, lfj, lsj, lrj⟩ := taskStep_on root j s (taskStep root i s) htj
    (fun q h => fi q fun h' => hq q h' h) (fun u h => si u fun h' => hu u h' h) (fun u h => ri u fun h' => hu u h' h)
  exact KState.ext' _ _ (updates_commute hq fi fj fi' fj' lfi lfj) (updates_commute hu si sj si' sj' lsi lsj)
    (updates_commute hu ri rj ri' rj' lri lrj)
    (updates_commute (fun k (h : k = i) => h ▸ hij) ti tj ti' tj' (fun _ h => by rw [h, li]) (fun _ h => by rw [h, lj]))

/-- **C15 (two attempts of different transfers commute)** — the core of order independence -/
theorem C15_steps_commute (root : Path) (i j : Nat) (hij : i ≠ j) (s : KState) (hd : Disjoint root s) :
    taskStep root i (taskStep root j s) = taskStep root j (taskStep root i s) :=
  have ⟨ui, qi⟩ := cur_in_footprint root (s.tasks i)
  have ⟨uj, qj⟩ := cur_in_footprint root (s.tasks j)
  taskStep_comm root i j hij s (fun q h h' => (hd i j hij).1 q (qi q h) (qj q h')) (fun u h h' => (hd i j hij).2 u (ui u h) (uj u h'))

theorem exec_disjoint (root : Path) (sched : List Nat) (s : KState) (h : Disjoint root s) : Disjoint root (exec root sched s) := by
  induction sched generalizing s with
  | nil => exact h
  | cons i rest ih => simp only [exec, List.foldl_cons]; exact ih _ (taskStep_disjoint root i s h)

/-- **C15 (order independence).** If distinct tasks never share a target name or a URL, two schedules that are
    permutations of each other — any interleaving of the same attempts — end in exactly the same state: the same
    file at every target name with the same link groups, the same remaining scripts and request counts, and for every
    task the same reported variant, byte count and outcome (obtained / ignored / missing / failed). -/
theorem C15_order_independent (root : Path) (s₁ s₂ : List Nat) (hp : s₁.Perm s₂) (s : KState) (hd : Disjoint root s) :
    exec root s₁ s = exec root s₂ s := by
  induction hp generalizing s with
  | nil => rfl
  | cons i _ ih => simp only [exec, List.foldl_cons]; exact ih _ (taskStep_disjoint root i s hd)
  | swap i j l =>
    simp only [exec, List.foldl_cons]
    by_cases hij : i = j
    · subst hij; rfl
    · rw [C15_steps_commute root i j hij s hd]
  | trans _ _ ih1 ih2 => exact (ih1 s hd).trans (ih2 s hd)

/-- **C15 (queue order).** In particular the order in which the queue is popped (hash-seed dependent) does not matter:
    running every task to completion one after the other in any order of the tasks gives the same state. -/
theorem C15_queue_order (root : Path) (ids₁ ids₂ : List Nat) (hp : ids₁.Perm ids₂) (n : Nat) (s : KState) (hd : Disjoint root s) :
    exec root (ids₁.flatMap fun i => List.replicate n i) s = exec root (ids₂.flatMap fun i => List.replicate n i) s :=
  C15_order_independent root _ _ (hp.flatMap_right _) s hd

/-! ### non-vacuity: two tasks, all interleavings of 2+2 steps agree -/
private def mkF (n : String) (sz : Nat) : DFile where
  path := [n]
  variants := [{ path := [n], comp := .none, size := sz, hashes := [], useByHash := false }]
  checkSize := false
  ignoreErrors := false
  ignoreMissing := false
private def fA : DFile := mkF "a" 3
private def fB : DFile := mkF "b" 2
private def fNone : DFile := { path := [], variants := [], checkSize := false, ignoreErrors := false, ignoreMissing := false }
private def st0 : KState :=
  { files := fun _ => { gen := 0, cur := none }
    scripts := fun u => if u = ["a"] then [.error, .ok none none 3 false 1] else if u = ["b"] then [.ok none (some 5) 2 false 2] else []
    reqs := fun _ => 0
    tasks := fun i => if i = 0 then newTask fA else if i = 1 then newTask fB else { newTask fNone with finished := true } }
example : ((exec [] [0, 1, 0] st0).tasks 0).outcome = 1 ∧ ((exec [] [1, 0, 0] st0).tasks 0).outcome = 1 ∧
          ((exec [] [0, 0, 1] st0).files ["b"]).cur = ((exec [] [1, 0, 0] st0).files ["b"]).cur ∧
          (exec [] [0, 1, 0] st0).reqs ["a"] = 2 := by decide

end Interleave
end AptMirror
