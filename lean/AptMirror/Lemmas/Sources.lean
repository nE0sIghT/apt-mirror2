import AptMirror.Lemmas.Index
/-!
Stanza-level semantics of a Sources index (an abstract syntax tree of stanzas: `Package`, `Directory`, the four checksum
sections with their file entries, and arbitrary other fields with continuation lines), its rendering into lines, and the proof
that the line machine of `SourcesParser._do_parse_index` computes it.
-/
namespace AptMirror
namespace Index
open Str Cfg

/-! ### tokens -/

/-- a blank-free, non-empty word -/
structure Tok (t : S) : Prop where
  ne : t ≠ []
  nows : t.all (fun c => !isWs c) = true

theorem Tok.all {t : S} (h : Tok t) : ∀ c ∈ t, (!isWs c) = true := List.all_eq_true.mp h.nows

theorem Tok.clean {t : S} (h : Tok t) : Clean t := by
  have hall : ∀ c ∈ t, isWs c = false := fun c hc => by simpa using h.all c hc
  constructor
  · cases t with
    | nil => exact absurd rfl h.ne
    | cons c r => exact ⟨c, r, rfl, hall c List.mem_cons_self⟩
  · exact ⟨t.dropLast, t.getLast h.ne, (List.dropLast_concat_getLast h.ne).symm, hall _ (List.getLast_mem h.ne)⟩

theorem Tok.isEmpty {t : S} (h : Tok t) : t.isEmpty = false := by
  cases t with
  | nil => exact absurd rfl h.ne
  | cons _ _ => rfl

theorem takeWhile_tok_end (t : S) (h : t.all (fun c => !isWs c) = true) :
    t.takeWhile (fun c => !isWs c) = t := by
  simpa using List.takeWhile_append_of_pos (l₂ := []) (List.all_eq_true.mp h)

theorem dropWhile_tok_end (t : S) (h : t.all (fun c => !isWs c) = true) :
    t.dropWhile (fun c => !isWs c) = [] := by
  simpa using List.dropWhile_append_of_pos (l₂ := []) (List.all_eq_true.mp h)

/-- a word followed by a blank is what `takeWhile`/`dropWhile` up to the first blank split off -/
theorem span_tok (t r : S) (h : Tok t) :
    (t ++ ' ' :: r).takeWhile (fun c => !isWs c) = t ∧ (t ++ ' ' :: r).dropWhile (fun c => !isWs c) = ' ' :: r := by
  rw [List.takeWhile_append_of_pos h.all, List.dropWhile_append_of_pos h.all]
  exact ⟨by simp [isWs], by simp [isWs]⟩

theorem lstrip_tok (t r : S) (h : Tok t) : lstrip (' ' :: t ++ r) = t ++ r := by
  obtain ⟨c, r', rfl, hc⟩ := h.clean.head
  rw [lstrip, List.cons_append, List.dropWhile_cons_of_pos (by decide)]
  exact List.dropWhile_cons_of_neg (by simp [hc])

/-- `" h sz n<eol>".strip().split(maxsplit=2)` = `[h, sz, n]` -/
theorem split3_render (h sz n eol : S) (hh : Tok h) (hs : Tok sz) (hn : Tok n) (he : IsEol eol) :
    split3 (' ' :: h ++ ' ' :: sz ++ ' ' :: n ++ eol) = some (h, sz, n) := by
  have h1 : strip (' ' :: h ++ ' ' :: sz ++ ' ' :: n ++ eol) = h ++ ' ' :: (sz ++ ' ' :: n) := by
    have := strip_pad [' '] _ eol (by decide) he.all (Clean.append hh.clean.head (' ' :: sz ++ [' ']) hn.clean.last)
    simpa [List.append_assoc] using this
  have e2 : lstrip (' ' :: (sz ++ ' ' :: n)) = sz ++ ' ' :: n := lstrip_tok sz (' ' :: n) hs
  have e3 : lstrip (' ' :: n) = n := by simpa using lstrip_tok n [] hn
  simp only [split3, h1, span_tok h _ hh, e2, span_tok sz _ hs, e3, hh.isEmpty, hs.isEmpty, hn.isEmpty]
  rfl

theorem splitWs_go_tok (t r cur : S) (acc : List S) (h : t.all (fun c => !isWs c) = true) :
    splitWs.go cur acc (t ++ r) = splitWs.go (t.reverse ++ cur) acc r := by
  induction t generalizing cur with
  | nil => rfl
  | cons c cs ih =>
    simp only [List.all_cons, Bool.and_eq_true, Bool.not_eq_true'] at h
    simp only [List.cons_append, splitWs.go, h.1, Bool.false_eq_true, if_false]
    rw [ih (c :: cur) h.2]
    simp

/-- `"key v<eol>".strip().split()` = `[key, v]` -/
theorem splitWs_render (key v eol : S) (hk : Tok key) (hv : Tok v) (he : IsEol eol) :
    splitWs (strip (key ++ ' ' :: (v ++ eol))) = [key, v] := by
  have h1 : strip (key ++ ' ' :: (v ++ eol)) = key ++ ' ' :: v := by
    simpa using strip_pad [] _ eol rfl he.all (Clean.append hk.clean.head [' '] hv.clean.last)
  have h2 := splitWs_go_tok v [] [] [key] hv.nows
  rw [List.append_nil] at h2
  rw [h1, splitWs, splitWs_go_tok key _ [] [] hk.nows]
  simp only [splitWs.go, show isWs ' ' = true by decide, if_true, List.append_nil, List.isEmpty_reverse, hk.isEmpty,
    Bool.false_eq_true, if_false, List.reverse_reverse, h2, hv.isEmpty]
  rfl

/-! ### the abstract syntax of a Sources stanza -/

inductive SecKind | files | sha1 | sha256 | sha512
deriving DecidableEq, Repr

def SecKind.header : SecKind → S
  | .files => "Files:\n".toList
  | .sha1 => "Checksums-Sha1:\n".toList
  | .sha256 => "Checksums-Sha256:\n".toList
  | .sha512 => "Checksums-Sha512:\n".toList

/-- one file entry of a checksum section: ` <hash> <size> <name>` -/
structure Entry where
  hash : S
  size : S
  name : S
  eol : S := ['\n']

def Entry.line (e : Entry) : S := ' ' :: e.hash ++ ' ' :: e.size ++ ' ' :: e.name ++ e.eol

structure Entry.OK (e : Entry) : Prop where
  hash : Tok e.hash
  size : Tok e.size
  name : Tok e.name
  eol : IsEol e.eol

def kDirectory : S := "Directory".toList
def kFiles : S := "Files".toList
def kChecksums : S := "Checksums-".toList
def shaNames : List S := ["Sha1".toList, "Sha256".toList, "Sha512".toList]

inductive SrcField
  | package (v eol : S)
  | directory (v eol : S)
  | sect (k : SecKind) (entries : List Entry)
  | other (f : Field)

def SrcField.lines : SrcField → List S
  | .package v eol => ["Package: ".toList ++ v ++ eol]
  | .directory v eol => ["Directory: ".toList ++ v ++ eol]
  | .sect k es => k.header :: es.map Entry.line
  | .other f => f.lines

/-- well-formedness: values are single words, line ends are line ends, and an `other` field is none of the fields the
    format gives a meaning to (its name may still be a prefix or an extension of one of them, or any `Checksums-<x>`) -/
def SrcField.OK : SrcField → Prop
  | .package v eol => Tok v ∧ IsEol eol
  | .directory v eol => Tok v ∧ IsEol eol
  | .sect _ es => ∀ e ∈ es, e.OK
  | .other f => NameOK f.name ∧ f.name ≠ kPackage ∧ f.name ≠ kDirectory ∧ f.name ≠ kFiles ∧
      (∀ t ∈ shaNames, f.name ≠ kChecksums ++ t)

/-! ### the meaning of a Sources stanza -/

structure SrcAcc where
  package : Option S := none
  directory : Option Path := none
  files : List (Path × Int) := []

def specEntry (files : List (Path × Int)) (e : Entry) : Except Err (List (Path × Int)) :=
  let p := pathParts e.name
  if !lexSafe p then pure files
  else match parseInt e.size with
    | some n => pure (addSrcFile files p n)
    | none => throw .valueError

def specSrcField (a : SrcAcc) : SrcField → Except Err SrcAcc
  | .package v _ => pure { a with package := some v }
  | .directory v _ =>
    let p := pathParts v
    if lexSafe p then pure { a with directory := some p } else pure a
  | .sect _ es => do
    let fs ← es.foldlM specEntry a.files
    pure { a with files := fs }
  | .other _ => pure a

/-- the end of a stanza: every file entry, placed under the Directory, provided the stanza has a Package that the source-name
    filters allow -/
def srcFlush (flt : Filter) (ign : List Path) (a : SrcAcc) (pool : List PoolFile) : List PoolFile :=
  match a.package, a.directory with
  | some pkg, some dir =>
    if pkg.isEmpty then pool
    else if !flt.allowed pkg none then pool
    else a.files.foldl (fun pl f =>
      let full := if isAbsPath f.1 then f.1 else dir ++ f.1
      putPool pl { path := full, size := f.2, ignoreErrors := shouldIgnore ign full }) pool
  | _, _ => pool

structure SrcStanza where
  fields : List SrcField
  blanks : Nat

def SrcStanza.lines (st : SrcStanza) : List S := st.fields.flatMap SrcField.lines ++ List.replicate st.blanks ['\n']

def specSrcFields (a : SrcAcc) (fs : List SrcField) : Except Err SrcAcc := fs.foldlM specSrcField a

/-- **stanza-level specification of a Sources index** -/
def specSources (flt : Filter) (ign : List Path) (sts : List SrcStanza) (pool : List PoolFile) : Except Err (List PoolFile) :=
  sts.foldlM (fun pool st => do let a ← specSrcFields {} st.fields; pure (srcFlush flt ign a pool)) pool

/-! ### what `sourcesLine` does with each kind of line -/

def proj (s : SState) : SrcAcc := { package := s.package, directory := s.directory, files := s.files }

/-- the `Package:` and `Directory:` lines, as the stanza renders them and as the parser tests for them (see `key_package`) -/
theorem key_package_line (v eol : S) :
    "Package: ".toList ++ v ++ eol = "Package:".toList ++ ' ' :: (v ++ eol) ∧ Tok "Package:".toList := by
  rw [String.toList_ofList, String.toList_ofList]; exact ⟨by simp, by decide, by decide⟩
theorem key_directory_line (v eol : S) :
    "Directory: ".toList ++ v ++ eol = "Directory:".toList ++ ' ' :: (v ++ eol) ∧ Tok "Directory:".toList ∧
      startsWith ("Directory:".toList ++ ' ' :: (v ++ eol)) "Package:".toList = false := by
  rw [String.toList_ofList, String.toList_ofList, String.toList_ofList]; exact ⟨by simp, ⟨by decide, by decide⟩, rfl⟩

theorem startsWith_append (p r : S) : startsWith (p ++ r) p = true :=
  List.isPrefixOf_iff_prefix.mpr (List.prefix_append p r)

theorem sourcesLine_package (flt : Filter) (ign : List Path) (s : SState) (pool : List PoolFile) (v eol : S)
    (hv : Tok v) (he : IsEol eol) :
    sourcesLine flt ign (s, pool) ("Package: ".toList ++ v ++ eol) = .ok ({ s with package := some v }, pool) := by
  obtain ⟨e, hk⟩ := key_package_line v eol
  rw [e]
  unfold sourcesLine
  simp only [head_ne_ws hk.clean.head _ ' ' rfl, head_ne_ws hk.clean.head _ '\n' rfl, startsWith_append, splitWs_render _ v eol hk hv he, if_true,
    if_false, ne_eq, not_false_eq_true]
  rfl

theorem sourcesLine_directory (flt : Filter) (ign : List Path) (s : SState) (pool : List PoolFile) (v eol : S)
    (hv : Tok v) (he : IsEol eol) :
    sourcesLine flt ign (s, pool) ("Directory: ".toList ++ v ++ eol) =
      .ok (if lexSafe (pathParts v) then { s with directory := some (pathParts v) } else s, pool) := by
  obtain ⟨e, hk, hsp⟩ := key_directory_line v eol
  rw [e]
  unfold sourcesLine
  simp only [head_ne_ws hk.clean.head _ ' ' rfl, head_ne_ws hk.clean.head _ '\n' rfl, hsp, startsWith_append, splitWs_render _ v eol hk hv he, if_true,
    if_false, ne_eq, not_false_eq_true, Bool.false_eq_true]
  cases lexSafe (pathParts v) <;> rfl

/-- the parser's test for a line that opens a checksum section -/
def opensSection (line : S) : Bool :=
  startsWith line "Files:".toList || startsWith line "Checksums-".toList &&
    (decide ((line.drop "Checksums-".length).dropLast = "Sha1:".toList) ||
     decide ((line.drop "Checksums-".length).dropLast = "Sha256:".toList) ||
     decide ((line.drop "Checksums-".length).dropLast = "Sha512:".toList))

/-- every first line of a field other than `Package` and `Directory` only sets the section flag -/
theorem sourcesLine_plain (flt : Filter) (ign : List Path) (s : SState) (pool : List PoolFile) (line : S)
    (h1 : line.head? ≠ some ' ') (h2 : line.head? ≠ some '\n') (h3 : startsWith line "Package:".toList = false)
    (h4 : startsWith line "Directory:".toList = false) :
    sourcesLine flt ign (s, pool) line = .ok ({ s with inSection := opensSection line }, pool) := by
  unfold sourcesLine opensSection
  simp only [h1, h2, h3, h4, if_false, if_true, ne_eq, not_false_eq_true, Bool.false_eq_true]
  cases startsWith line "Files:".toList <;> cases startsWith line "Checksums-".toList <;> rfl

theorem sourcesLine_header (flt : Filter) (ign : List Path) (s : SState) (pool : List PoolFile) (k : SecKind) :
    sourcesLine flt ign (s, pool) k.header = .ok ({ s with inSection := true }, pool) := by
  -- the four header lines pass the parser's tests: by evaluation, once the literals are lists of characters
  have h : ∀ k : SecKind, k.header.head? ≠ some ' ' ∧ k.header.head? ≠ some '\n' ∧
      startsWith k.header "Package:".toList = false ∧ startsWith k.header "Directory:".toList = false ∧
      opensSection k.header = true := by
    unfold opensSection SecKind.header
    rw [← String.length_toList]
    repeat rw [String.toList_ofList]
    intro k
    cases k <;> decide
  obtain ⟨h1, h2, h3, h4, h5⟩ := h k
  rw [sourcesLine_plain flt ign s pool _ h1 h2 h3 h4, h5]

/-- a field whose line passes the section test is named `Checksums-<t>` -/
theorem section_name (f : Field) (hn : ':' ∉ f.name) (p t : S) (hp : ':' ∉ p ++ t)
    (h1 : startsWith f.first p = true) (h2 : (f.first.drop p.length).dropLast = t ++ [':']) : f.name = p ++ t := by
  obtain ⟨d, hd⟩ := List.isPrefixOf_iff_prefix.mp h1
  rw [← hd, List.drop_left] at h2
  have hne : d ≠ [] := by rintro rfl; cases t <;> cases h2
  rw [← List.dropLast_concat_getLast hne, h2, Field.first] at hd
  exact (colon_split_unique (p ++ t) f.name [d.getLast hne] (f.rest ++ f.eol) hp hn (by simpa using hd)).symm

theorem key_sources : "Directory:".toList = kDirectory ++ [':'] ∧ "Files:".toList = kFiles ++ [':'] ∧
    "Checksums-".toList = kChecksums ∧
    ["Sha1:".toList, "Sha256:".toList, "Sha512:".toList] = shaNames.map (· ++ [':']) ∧
    ':' ∉ kDirectory ∧ ':' ∉ kFiles ∧ ∀ t ∈ shaNames, ':' ∉ kChecksums ++ t := by
  unfold kDirectory kFiles kChecksums shaNames
  repeat rw [String.toList_ofList]
  decide

/-- first line of a field the format gives no meaning to: only the section flag is cleared -/
theorem sourcesLine_other (flt : Filter) (ign : List Path) (s : SState) (pool : List PoolFile) (f : Field)
    (hname : NameOK f.name) (h1 : f.name ≠ kPackage) (h2 : f.name ≠ kDirectory) (h3 : f.name ≠ kFiles)
    (h4 : ∀ t ∈ shaNames, f.name ≠ kChecksums ++ t) :
    sourcesLine flt ign (s, pool) f.first = .ok ({ s with inSection := false }, pool) := by
  have hn := hname.nocolon
  obtain ⟨kd, kf, kc, ksh, cd, cf, csh⟩ := key_sources
  have hsec : opensSection f.first = false := by
    have hsha : ∀ t ∈ shaNames, ((f.first.drop "Checksums-".length).dropLast = t ++ [':']) →
        startsWith f.first "Checksums-".toList = false := by
      intro t ht h
      rw [Bool.eq_false_iff]
      intro hcs
      rw [← String.length_toList, kc] at h
      rw [kc] at hcs
      exact h4 t ht (section_name f hn kChecksums t (csh t ht) hcs h)
    have e : ∀ x y z : S, [x, y, z] = shaNames.map (· ++ [':']) →
        ∀ l : S, (decide (l = x) || decide (l = y) || decide (l = z)) = true → ∃ t ∈ shaNames, l = t ++ [':'] := by
      intro x y z hx l hl
      have : l ∈ [x, y, z] := by simpa [Bool.or_assoc] using hl
      rw [hx] at this
      obtain ⟨t, ht, rfl⟩ := List.mem_map.mp this
      exact ⟨t, ht, rfl⟩
    unfold opensSection
    rw [kf, startsWith_first f _ cf hn, decide_eq_false h3, Bool.false_or, Bool.and_eq_false_iff]
    by_cases hcs : startsWith f.first "Checksums-".toList = true
    · right
      rw [Bool.eq_false_iff]
      intro hl
      obtain ⟨t, ht, hlt⟩ := e _ _ _ ksh _ hl
      rw [hsha t ht hlt] at hcs
      cases hcs
    · exact Or.inl (Bool.eq_false_iff.mpr hcs)
  rw [sourcesLine_plain flt ign s pool _ (first_head_ne f hname ' ' rfl) (first_head_ne f hname '\n' rfl)
    (by rw [key_package.1, startsWith_first f _ key_package.2.nocolon hn, decide_eq_false h1])
    (by rw [kd, startsWith_first f _ cd hn, decide_eq_false h2]), hsec]

theorem sourcesLine_entry (flt : Filter) (ign : List Path) (s : SState) (pool : List PoolFile) (e : Entry) (he : e.OK)
    (hs : s.inSection = true) :
    sourcesLine flt ign (s, pool) e.line =
      (match specEntry s.files e with | .ok fs => .ok ({ s with files := fs }, pool) | .error er => .error er) := by
  obtain ⟨pk, dr, sec, fl⟩ := s
  cases hs
  have h0 : e.line.head? = some ' ' := rfl
  have h3 : split3 e.line = some (e.hash, e.size, e.name) :=
    split3_render e.hash e.size e.name e.eol he.hash he.size he.name he.eol
  have hsp : e.name.contains ' ' = false := by
    rw [List.contains_eq_mem, decide_eq_false_iff_not]
    exact fun hm => absurd (he.name.all ' ' hm) (by decide)
  unfold sourcesLine specEntry
  simp only [h0, h3, hsp, if_true, Bool.not_true, Bool.false_eq_true, if_false]
  split
  · rfl
  · cases parseInt e.size <;> rfl

/-- a line that starts with a blank is skipped outside a checksum section -/
theorem sourcesLine_cont_skip (flt : Filter) (ign : List Path) (s : SState) (pool : List PoolFile) (c : S × S)
    (hs : s.inSection = false) :
    sourcesLine flt ign (s, pool) (contLine c) = .ok (s, pool) := by
  unfold sourcesLine contLine
  simp [hs, pure, Except.pure]

theorem sourcesLine_blank (flt : Filter) (ign : List Path) (s : SState) (pool : List PoolFile) :
    sourcesLine flt ign (s, pool) ['\n'] = .ok ({}, srcFlush flt ign (proj s) pool) := by
  unfold sourcesLine srcFlush proj
  dsimp only
  rw [if_neg (by decide), if_neg (by decide)]
  cases s.package with
  | none => rfl
  | some pkg =>
    cases s.directory with
    | none => rfl
    | some dir =>
      dsimp only
      cases pkg.isEmpty
      · cases flt.allowed pkg none <;> rfl
      · rfl

theorem srcFlush_empty (flt : Filter) (ign : List Path) (pool : List PoolFile) : srcFlush flt ign {} pool = pool := rfl

/-- **one rendered field is read as the field means** (whatever the section flag was before it) -/
theorem sources_field (flt : Filter) (ign : List Path) (fld : SrcField) (hok : fld.OK) (s : SState) (pool : List PoolFile) :
    Reads proj pool (fld.lines.foldlM (sourcesLine flt ign) (s, pool)) (specSrcField (proj s) fld) := by
  cases fld with
  | package v eol =>
    exact ⟨_, by rw [SrcField.lines, List.foldlM_cons, sourcesLine_package flt ign s pool v eol hok.1 hok.2]; rfl, rfl⟩
  | directory v eol =>
    simp only [specSrcField, SrcField.lines, List.foldlM_cons, List.foldlM_nil,
      sourcesLine_directory flt ign s pool v eol hok.1 hok.2]
    cases lexSafe (pathParts v) <;> exact ⟨_, rfl, rfl⟩
  | sect k es =>
    simp only [specSrcField, SrcField.lines, List.foldlM_cons, sourcesLine_header flt ign s pool k]
    -- inside a section, an entry line is read as `specEntry` says
    have hes : ∀ (s : SState), s.inSection = true →
        (es.map Entry.line).foldlM (sourcesLine flt ign) (s, pool) =
          (es.foldlM specEntry s.files).map (fun fs => ({ s with files := fs }, pool)) := by
      induction es with
      | nil => intro s _; rfl
      | cons e es ih =>
        intro s hs
        rw [List.map_cons, List.foldlM_cons, List.foldlM_cons, sourcesLine_entry flt ign s pool e (hok e List.mem_cons_self) hs]
        cases specEntry s.files e with
        | error er => rfl
        | ok fs => exact ih (fun x hx => hok x (List.mem_cons_of_mem _ hx)) { s with files := fs } hs
    have h := hes { s with inSection := true } rfl
    simp only [bind, Except.bind, proj] at h ⊢
    cases hf : es.foldlM specEntry s.files with
    | error er => rw [hf] at h; exact h
    | ok fs => rw [hf] at h; exact ⟨_, h, rfl⟩
  | other f =>
    obtain ⟨hname, h1, h2, h3, h4⟩ := hok
    refine ⟨{ s with inSection := false }, ?_, rfl⟩
    rw [SrcField.lines, Field.lines, List.foldlM_cons, sourcesLine_other flt ign s pool f hname h1 h2 h3 h4]
    show (f.cont.map contLine).foldlM (sourcesLine flt ign) ({ s with inSection := false }, pool) = _
    induction f.cont with
    | nil => rfl
    | cons c cs ih => rw [List.map_cons, List.foldlM_cons, sourcesLine_cont_skip flt ign _ pool c rfl]; exact ih

end Index
end AptMirror
