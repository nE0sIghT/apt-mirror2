import AptMirror.Model.Rate
/-!
# C19 — rate limit and slow-transfer protection behave as configured

> With a rate limit configured, the bytes accepted from all transfers together during any interval of T seconds
> never exceed limit_rate x (T + 60) plus one chunk, and throughput is not throttled below the limit when the
> upstream is faster. A transfer whose average rate after the start-up grace period falls below slow_rate is
> aborted and retried, while a transfer at or above the threshold, or still within the grace period, is never
> aborted.

Model: `Model/Rate.lean`.  The bucket is the *contract* of `aiolimiter.AsyncLimiter(60·limit_rate, 60)`; its
internals (waiter wake-up order, timers) are exercised by the harness under a virtual clock, not modelled —
the "not throttled below the limit" half is proved at the level of that contract: a limiter that lets a waiter through as soon
as the contract allows (`Bucket.earliest`) never delays a request beyond necessity (`C19_earliest_is_first`), a request is only
ever delayed into a bucket that is then full to within one tick's worth (`C19_delayed_only_when_full`), and therefore a
consumer that is kept waiting receives at least `limit_rate·T − limit_rate` over any span `T` (`C19_not_throttled`).  That the
real AsyncLimiter wakes its waiters that promptly is observed by the harness under the virtual clock, not proved (**partial**).
-/
namespace AptMirror
namespace Rate

theorem grant_eq_some (b b' : Bucket) (t a : Nat) :
    b.grant t a = some b' ↔ b.last ≤ t ∧ b.leak t + a ≤ b.cap ∧ b' = { b with level := b.leak t + a, last := t } := by
  unfold Bucket.grant
  by_cases h : b.last ≤ t ∧ b.leak t + a ≤ b.cap
  · rw [if_pos h, Option.some.injEq, eq_comm]; exact ⟨fun e => ⟨h.1, h.2, e⟩, fun e => e.2.2⟩
  · rw [if_neg h]; exact ⟨nofun, fun e => absurd ⟨e.1, e.2.1⟩ h⟩

/-- the leak over `[x, z]` is the leak over `[x, y]` plus the leak over `[y, z]` -/
theorem mul_sub_split (r x y z : Nat) (h1 : x ≤ y) (h2 : y ≤ z) : r * (z - x) = r * (y - x) + r * (z - y) := by
  rw [← Nat.mul_add, Nat.add_comm, Nat.sub_add_sub_cancel h2 h1]

/-- potential argument: level after the run ≥ level before + granted − leaked, and ≤ cap -/
theorem run_level (b b' : Bucket) (gs : List (Nat × Nat)) (h : b.run gs = some b') :
    b'.r = b.r ∧ b'.cap = b.cap ∧ b.last ≤ b'.last ∧
    b.level + (gs.map (·.2)).sum ≤ b'.level + b.r * (b'.last - b.last) ∧ (b.level ≤ b.cap → b'.level ≤ b.cap) := by
  induction gs generalizing b with
  | nil => cases h; simp
  | cons g rest ih =>
    obtain ⟨t, a⟩ := g
    simp only [Bucket.run] at h
    split at h
    · rename_i b1 hb1
      obtain ⟨ht, hg, rfl⟩ := (grant_eq_some b b1 t a).mp hb1
      obtain ⟨h1, h2, h3, h4, h5⟩ := ih _ h
      simp only at h1 h2 h3 h4 h5
      refine ⟨h1, h2, Nat.le_trans ht h3, ?_, fun _ => h5 hg⟩
      simp only [List.map_cons, List.sum_cons]
      have := mul_sub_split b.r b.last t b'.last ht h3
      unfold Bucket.leak at h4
      omega
    · cases h


/-- **C19 (window bound of the bucket).** Whatever the state of the bucket at the start of an interval, the amounts
    granted during an interval of length `T` sum to at most `cap + r·T` — with `cap = 60·limit_rate` and one tick per
    second: `limit_rate × (T + 60)`. Holds for every interleaving of any number of transfers (the grants are whatever
    the limiter lets through, in time order). -/
theorem C19_bucket_bound (b b' : Bucket) (gs : List (Nat × Nat)) (hb : b.level ≤ b.cap)
    (h : b.run gs = some b') (T : Nat) (hT : b'.last ≤ b.last + T) :
    (gs.map (·.2)).sum ≤ b.cap + b.r * T := by
  obtain ⟨_, h2, h3, h4, h5⟩ := run_level b b' gs h
  have := h5 hb
  have hmono : b.r * (b'.last - b.last) ≤ b.r * T := Nat.mul_le_mul_left _ (by omega)
  omega

theorem slices_sum (cap : Nat) (hc : 0 < cap) (fuel n : Nat) (hf : n ≤ fuel) : (slices cap fuel n).sum = n := by
  fun_induction slices cap fuel n with
  | case1 => exact (Nat.le_zero.mp hf).symm
  | case2 => rfl
  | case3 => simp
  | case4 fuel n _ _ ih => rw [List.sum_cons, ih (by omega)]; omega

theorem slices_le (cap : Nat) (fuel n : Nat) : ∀ x ∈ slices cap fuel n, x ≤ cap := by
  fun_induction slices cap fuel n with
  | case1 | case2 => nofun
  | case3 _ _ _ h => intro x hx; cases List.mem_singleton.mp hx; exact h
  | case4 _ _ _ _ ih =>
    intro x hx
    rcases List.mem_cons.mp hx with rfl | hx
    · exact Nat.le_refl _
    · exact ih x hx

/-- **C19 (every byte is charged, in amounts the limiter accepts).** After the fix a chunk of any size is charged in
    slices that never exceed the capacity and add up to exactly the chunk: accepted bytes = acquired bytes, so the
    window bound of the bucket is a bound on accepted bytes (up to the chunk whose slices straddle the window start). -/
theorem C19_charge_exact (cap n : Nat) (hc : 0 < cap) :
    (charge cap n).sum = n ∧ ∀ x ∈ charge cap n, x ≤ cap :=
  ⟨slices_sum cap hc n n (Nat.le_refl _), slices_le cap n n⟩

/-- **C19 (the original charging under-counts oversize chunks).** `limit_rate` 1 per tick (capacity 60): an 8 MiB chunk is
    charged 60; three of them pass in 120 ticks = 24 MiB against a bound of 180 + one chunk (finding F-C19a). -/
theorem C19_legacy_oversize_counterexample :
    let b : Bucket := { r := 1, cap := 60, level := 0, last := 0 }
    let chunk := 8388608
    (b.run [(0, (legacyCharge 60 chunk).sum), (60, (legacyCharge 60 chunk).sum), (120, (legacyCharge 60 chunk).sum)]).isSome = true ∧
    3 * chunk > 60 + 1 * 120 + chunk := by decide

/-- **C19 (slow-transfer protection, exactly).** At a chunk arrival the transfer is aborted iff at least one whole
    second and at least the grace period have passed and the average rate so far is below the threshold. -/
theorem C19_slow_iff (startup slowRate passed count : Nat) :
    slow startup slowRate passed count = true ↔ (0 < passed ∧ startup ≤ passed ∧ count < slowRate * passed) := by
  unfold slow
  simp only [Bool.and_eq_true, ne_eq, decide_eq_true_eq]
  constructor
  · rintro ⟨⟨h1, h2⟩, h3⟩; exact ⟨by omega, h2, h3⟩
  · rintro ⟨h1, h2, h3⟩; exact ⟨⟨by omega, h2⟩, h3⟩

/-- never aborted within the grace period or at/above the threshold -/
theorem C19_not_aborted (startup slowRate passed count : Nat) (h : passed < startup ∨ slowRate * passed ≤ count) :
    slow startup slowRate passed count = false := by
  cases hs : slow startup slowRate passed count with
  | false => rfl
  | true => have := (C19_slow_iff _ _ _ _).mp hs; omega


/-! ### not throttled below the limit -/

theorem ceil_spec (x r : Nat) (hr : 0 < r) : x ≤ r * ((x + r - 1) / r) ∧ r * ((x + r - 1) / r) < x + r := by
  have h1 := Nat.div_add_mod (x + r - 1) r
  have h2 := Nat.mod_lt (x + r - 1) hr
  omega

/-- `earliest` is a time from `t` on at which the level, had it leaked since `last` without truncation, admits `a`; and if that
    is later than `t`, it is the first such tick: one tick earlier the excess was still positive. -/
theorem earliest_spec (b : Bucket) (t a : Nat) (hr : 0 < b.r) (ht : b.last ≤ t) :
    t ≤ b.earliest t a ∧ b.level + a ≤ b.cap + b.r * (b.earliest t a - b.last) ∧
    (t < b.earliest t a → b.cap + b.r * (b.earliest t a - b.last) < b.level + a + b.r) := by
  obtain ⟨c1, c2⟩ := ceil_spec (b.level + a - b.cap) b.r hr
  unfold Bucket.earliest
  generalize (b.level + a - b.cap + b.r - 1) / b.r = q at c1 c2
  rcases Nat.le_total (b.last + q) t with h | h
  · rw [Nat.max_eq_left h]
    have := Nat.mul_le_mul_left b.r (show q ≤ t - b.last by omega)
    exact ⟨Nat.le_refl _, by omega, fun h => absurd h (Nat.lt_irrefl _)⟩
  · rw [Nat.max_eq_right h, Nat.add_sub_cancel_left]
    refine ⟨h, by omega, fun h' => ?_⟩
    have := Nat.mul_le_mul_left b.r (show 1 ≤ q by omega)
    omega


/-- **C19 (the earliest admissible time is admissible, and nothing earlier is).** For a request that fits the bucket at all
    (`a ≤ cap`), `earliest` is a time at which the contract grants it, and at every time between the request and that moment
    the contract refuses it: a limiter that wakes its waiter as soon as there is room delays no longer than the configured
    rate demands. -/
theorem C19_earliest_is_first (b : Bucket) (t a : Nat) (hr : 0 < b.r) (ha : a ≤ b.cap) (ht : b.last ≤ t) :
    (b.grant (b.earliest t a) a).isSome = true ∧
    ∀ t'', t ≤ t'' → t'' < b.earliest t a → b.grant t'' a = none := by
  obtain ⟨e1, e2, e3⟩ := earliest_spec b t a hr ht
  generalize b.earliest t a = e at e1 e2 e3
  constructor
  · rw [Option.isSome_iff_exists]
    exact ⟨_, (grant_eq_some b _ e a).mpr ⟨by omega, by unfold Bucket.leak; omega, rfl⟩⟩
  · intro t'' h1 h2
    cases hg : b.grant t'' a with
    | none => rfl
    | some b' =>
      obtain ⟨_, g2, _⟩ := (grant_eq_some b b' t'' a).mp hg
      have := e3 (by omega)
      have := Nat.mul_le_mul_left b.r (show t'' - b.last + 1 ≤ e - b.last by omega)
      rw [Nat.mul_add, Nat.mul_one] at this
      unfold Bucket.leak at g2
      omega

/-- **C19 (a request is delayed only into a full bucket).** If the earliest admissible time is later than the request, the
    bucket right after the grant is full to within one tick's leak: the limiter is then passing bytes at the configured rate,
    not below it.  (For chunks of at most `cap − r`; with aiolimiter's `cap = 60·r` that is any chunk up to 59 s worth.) -/
theorem C19_delayed_only_when_full (b b' : Bucket) (t a : Nat) (hr : 0 < b.r) (ha : a + b.r ≤ b.cap) (ht : b.last ≤ t)
    (hd : t < b.earliest t a) (hg : b.grant (b.earliest t a) a = some b') :
    b.cap < b'.level + b.r ∧ b'.level ≤ b.cap ∧
    b'.level + b.r * (b'.last - b.last) = b.level + a := by
  obtain ⟨_, e2, e3⟩ := earliest_spec b t a hr ht
  obtain ⟨_, g2, rfl⟩ := (grant_eq_some b b' _ a).mp hg
  have := e3 hd
  simp only [Bucket.leak] at g2 ⊢
  omega


/-- a run in which every request is issued when the previous one was granted (the upstream always has the next chunk ready)
    and every one of them has to wait -/
def Backlogged : Bucket → List Nat → Option Bucket
  | b, [] => some b
  | b, a :: rest =>
    if b.last < b.earliest b.last a then
      match b.grant (b.earliest b.last a) a with
      | some b' => Backlogged b' rest
      | none => none
    else none

theorem backlogged_exact (b b' : Bucket) (as : List Nat) (h : Backlogged b as = some b') (hr : 0 < b.r)
    (hfull : b.cap < b.level + b.r) (hlev : b.level ≤ b.cap) (hsmall : ∀ a ∈ as, a + b.r ≤ b.cap) :
    b'.r = b.r ∧ b'.cap = b.cap ∧ b.last ≤ b'.last ∧ b'.level + b.r * (b'.last - b.last) = b.level + as.sum ∧
    b.cap < b'.level + b.r ∧ b'.level ≤ b.cap := by
  induction as generalizing b with
  | nil => cases h; simp [hfull, hlev]
  | cons a rest ih =>
    simp only [Backlogged] at h
    split at h
    · rename_i hd
      split at h
      · rename_i b1 hg
        obtain ⟨f1, f2, f3⟩ := C19_delayed_only_when_full b b1 b.last a hr (hsmall a List.mem_cons_self) (Nat.le_refl _) hd hg
        obtain ⟨hl1, _, rfl⟩ := (grant_eq_some b b1 _ a).mp hg
        obtain ⟨g1, g2, g3, g4, g5, g6⟩ := ih _ h hr f1 f2 (fun x hx => hsmall x (List.mem_cons_of_mem _ hx))
        have := mul_sub_split b.r b.last _ b'.last hl1 g3
        simp only [List.sum_cons] at *
        exact ⟨g1, g2, Nat.le_trans hl1 g3, by omega, g5, g6⟩
      · cases h
    · cases h

/-- **C19 (not throttled below the limit).** Over any stretch in which a consumer is kept waiting by the limiter (each chunk
    requested as soon as the previous one was let through, each delayed), starting right after a delayed grant, the bytes let
    through exceed `r·T − r`, `T` the length of the stretch (exactly: they equal `r·T` up to the difference of two bucket levels
    that both lie within `r` of the capacity): the limiter's long-run throughput is the configured rate, it does not throttle
    below it.  Together with `C19_bucket_bound` the rate is pinned from both sides. -/
theorem C19_not_throttled (b b' : Bucket) (as : List Nat) (hr : 0 < b.r) (hfull : b.cap < b.level + b.r)
    (hlev : b.level ≤ b.cap) (hsmall : ∀ a ∈ as, a + b.r ≤ b.cap) (h : Backlogged b as = some b') :
    b.last ≤ b'.last ∧ b.r * (b'.last - b.last) < as.sum + b.r ∧ as.sum < b.r * (b'.last - b.last) + b.r := by
  obtain ⟨_, _, g3, g4, g5, g6⟩ := backlogged_exact b b' as h hr hfull hlev hsmall
  exact ⟨g3, by omega, by omega⟩

/-! ### non-vacuity -/
example : ({ r := 2, cap := 120, level := 0, last := 0 } : Bucket).run [(0, 100), (5, 30), (50, 90)] = some { r := 2, cap := 120, level := 120, last := 50 } := by decide
example : ({ r := 2, cap := 120, level := 0, last := 0 } : Bucket).run [(0, 100), (5, 31)] = none := by decide
example : charge 60 150 = [60, 60, 30] ∧ slow 15 100 20 1999 = true ∧ slow 15 100 14 0 = false := by decide
example : ({ r := 2, cap := 120, level := 119, last := 10 } : Bucket).earliest 10 50 = 35 := by decide
example : (Backlogged { r := 2, cap := 120, level := 119, last := 10 } [50, 30, 7]).map (fun b => (b.level, b.last)) = some (120, 53) := by decide

end Rate
end AptMirror
