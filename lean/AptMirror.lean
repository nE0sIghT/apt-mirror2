import AptMirror.Model
import AptMirror.Lemmas.Except
import AptMirror.Lemmas.List
import AptMirror.Lemmas.Nest
import AptMirror.Lemmas.FS
import AptMirror.Lemmas.Download
import AptMirror.Lemmas.Requests
import AptMirror.Lemmas.Frame
import AptMirror.Lemmas.Control
import AptMirror.Lemmas.Publish
import AptMirror.Lemmas.Config
import AptMirror.Lemmas.Script
import AptMirror.Lemmas.Clean
import AptMirror.Lemmas.Stanza
import AptMirror.Lemmas.Index
import AptMirror.Lemmas.Sources
import AptMirror.Lemmas.Mirror
import AptMirror.Props.C01
import AptMirror.Props.C01Pool
import AptMirror.Props.C02
import AptMirror.Props.C03
import AptMirror.Props.C04
import AptMirror.Props.C05
import AptMirror.Props.C06
import AptMirror.Props.C07
import AptMirror.Props.C08
import AptMirror.Props.C09
import AptMirror.Props.C10
import AptMirror.Props.C11
import AptMirror.Props.C11Stage
import AptMirror.Props.C12
import AptMirror.Props.C13
import AptMirror.Props.C14
import AptMirror.Props.C15
import AptMirror.Props.C16
import AptMirror.Props.C17
import AptMirror.Props.C17Vars
import AptMirror.Props.C18
import AptMirror.Props.C19
import AptMirror.Props.C20
