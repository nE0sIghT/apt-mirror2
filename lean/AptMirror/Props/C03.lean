import AptMirror.Lemmas.Publish
import AptMirror.Lemmas.Frame
import AptMirror.Lemmas.Mirror
/-!
# C03 — metadata becomes visible atomically and only after the files it references

> At every instant of a run on a standard (dists/ + pool/) repository, the live dists tree is
> byte-for-byte either the previously published tree or the complete new one - never partially
> populated, never modified in place - and every pool file referenced by the live tree is present
> with its declared size. New metadata goes live only after every pool file it references is in
> place, files are deleted only after the metadata that no longer references them is live, and the
> only permitted transient is the moment between the two directory renames of the swap, when dists
> is absent while the old tree is intact under its temporary name.

Model: `Model/Publish.lean` — `move_metadata` as the list of filesystem operations it performs
(`moveOps`: removal of leftovers, hard-link staging under `<top>.apt_mirror_new` via the exact
`link_or_copy` order, the two renames, removal of `<top>.apt_mirror_old`), replayed over the
functional filesystem; `Model/Control.lean` — the stage order of `mirror()`.  "Every instant" is
"every prefix of the operation list" (`List.take k`), for every `k`, every set of staged files with
any alias lists, every prior filesystem.  Atomicity of `rename(2)` itself is the step rule of
`FS.renameDir` (trusted, DESIGN §4.4).

The ordering clauses are proved on the whole-run model (`Model/Mirror.lean`), where a run that ends without error is one
operation sequence (pool stage chunk by chunk, the swap as one step, the cleaner's removals): at **every** prefix of it, either
the old metadata is live and no file that was complete when the run began has been touched (nothing the old metadata
references is deleted, rewritten or truncated), or the new metadata is live and every pool file it references is present with
its declared size — `C03_order`; removals only ever follow the swap — `C03_delete_after_live`.
-/
namespace AptMirror

/-- what a client may see at `<top>`: the old tree, the new tree, or nothing while the old tree sits
    intact under `<top>.apt_mirror_old` -/
def LiveOK (N : Names) (oldV newV : Path → Option FileData) (st : FS) : Prop :=
  st.view N.swap.cur = oldV ∨ st.view N.swap.cur = newV ∨
  (st.absent N.swap.cur ∧ st.view N.swap.old = oldV)

/-- leftovers removal + staging -/
def prepOps (N : Names) (files : List (Path × List Path)) : List Op :=
  [.rmtree N.swap.new, .rmtree N.swap.old] ++ stageOps N.swap files

/-- the tree that is about to be published: the staging directory after staging -/
def newView (N : Names) (files : List (Path × List Path)) (fs₀ : FS) : Path → Option FileData :=
  (replay (prepOps N files) fs₀).view N.swap.new

/-- leftovers removal and staging only bind names below the two temporary directories -/
theorem prep_touches (N : Names) (files : List (Path × List Path)) {op : Op} (hop : op ∈ prepOps N files) {q : Path}
    (hq : op.touches q = true) : isPrefix N.swap.new q = true ∨ isPrefix N.swap.old q = true := by
  simp only [prepOps, List.cons_append, List.nil_append, List.mem_cons] at hop
  rcases hop with rfl | rfl | hop
  · exact Or.inl hq
  · exact Or.inr hq
  · exact Or.inl (stageOps_touches _ _ hop hq)

theorem take_prep_view_cur (N : Names) (files : List (Path × List Path)) (fs₀ : FS) (k : Nat) :
    (replay ((prepOps N files).take k) fs₀).view N.swap.cur = fs₀.view N.swap.cur :=
  replay_view_of_apart _ _ (apart_sibling _ N.hcn.symm) (apart_sibling _ N.hco.symm)
    fun _ hop _ => prep_touches N files (List.mem_of_mem_take hop)

/-- the two renames and the removal of the old tree, from any state `s`: at every prefix `<top>` shows what `s` shows there, or
    what `s` has staged, or nothing while what `s` shows sits under `<top>.apt_mirror_old`; at the end it shows what was staged,
    and neither temporary directory is left -/
theorem swap_states (N : Names) (s : FS) (curExists : Bool) :
    (∀ k, LiveOK N (s.view N.swap.cur) (s.view N.swap.new) (replay ((swapOps N.swap curExists).take k) s)) ∧
    (replay (swapOps N.swap curExists) s).view N.swap.cur = s.view N.swap.new ∧
    (replay (swapOps N.swap curExists) s).absent N.swap.old ∧ (replay (swapOps N.swap curExists) s).absent N.swap.new := by
  have hoc : Apart N.swap.old N.swap.cur := apart_sibling _ N.hco.symm
  have hon : Apart N.swap.old N.swap.new := apart_sibling _ N.hno.symm
  have hcn : Apart N.swap.cur N.swap.new := apart_sibling _ N.hcn
  have hco : Apart N.swap.cur N.swap.old := apart_sibling _ N.hco
  -- `rename new cur`, then `rmtree old`, from a state `s₁`
  have h2 (s₁ : FS) : (s₁.renameDir N.swap.new N.swap.cur).view N.swap.cur = s₁.view N.swap.new :=
    FS.view_renameDir_dst _ _ _
  have h3 (s₁ : FS) : ((s₁.renameDir N.swap.new N.swap.cur).rmtree N.swap.old).view N.swap.cur = s₁.view N.swap.new := by
    rw [FS.view_rmtree_of_apart _ hoc, h2]
  have h3n (s₁ : FS) : ((s₁.renameDir N.swap.new N.swap.cur).rmtree N.swap.old).absent N.swap.new := by
    rw [FS.absent_iff_view, FS.view_rmtree_of_apart _ hon, ← FS.absent_iff_view]
    exact FS.absent_renameDir_src _ hcn
  cases curExists with
  | false =>
    refine ⟨?_, h3 s, FS.absent_rmtree _ _, h3n s⟩
    simp only [swapOps, Bool.false_eq_true, if_false, List.nil_append, forall_replay_take_cons, List.take_nil]
    exact ⟨Or.inl rfl, Or.inr (Or.inl (h2 s)), fun _ => Or.inr (Or.inl (h3 s))⟩
  | true =>
    -- between the renames `<top>` is absent and the old tree sits under its temporary name; the staged tree is untouched
    have h1 : (s.renameDir N.swap.cur N.swap.old).view N.swap.new = s.view N.swap.new :=
      FS.view_renameDir_of_apart _ hcn hon
    refine ⟨?_, h1 ▸ h3 _, FS.absent_rmtree _ _, h3n _⟩
    simp only [swapOps, if_true, List.cons_append, List.nil_append, forall_replay_take_cons, List.take_nil]
    exact ⟨Or.inl rfl, Or.inr (Or.inr ⟨FS.absent_renameDir_src _ hoc, FS.view_renameDir_dst _ _ _⟩),
      Or.inr (Or.inl (h1 ▸ h2 _)), fun _ => Or.inr (Or.inl (h1 ▸ h3 _))⟩

theorem moveOps_eq (N : Names) (files : List (Path × List Path)) (curExists : Bool) :
    moveOps N.swap files curExists = prepOps N files ++ swapOps N.swap curExists := by
  simp [moveOps, prepOps]

/-- **C03 (the swap is atomic at every prefix).** For every set of staged files (any sources, any alias
    lists), every prior filesystem and every `k`: after the first `k` filesystem operations of
    `move_metadata`, `<top>` shows the old tree, or the complete new tree, or is absent with the old
    tree intact under `<top>.apt_mirror_old`.  No prefix shows a partially populated or modified tree. -/
theorem C03_publish_prefix (N : Names) (files : List (Path × List Path)) (fs₀ : FS) (curExists : Bool)
    (hcur : curExists = false → fs₀.absent N.swap.cur) (k : Nat) :
    LiveOK N (fs₀.view N.swap.cur) (newView N files fs₀)
      (replay ((moveOps N.swap files curExists).take k) fs₀) := by
  revert k
  rw [moveOps_eq, forall_replay_take_append]
  -- while preparing, the live tree is untouched; then the swap, from the prepared state
  refine ⟨fun k => Or.inl (take_prep_view_cur N files fs₀ k), ?_⟩
  have := (swap_states N (replay (prepOps N files) fs₀) curExists).1
  rwa [← List.take_length (l := prepOps N files), take_prep_view_cur, List.take_length] at this

/-- **C03 (what goes live is exactly what was staged, and the temporaries are gone).** After the complete
    operation list `<top>` shows `newView`, and neither `<top>.apt_mirror_new` nor
    `<top>.apt_mirror_old` exists. -/
theorem C03_publish_final (N : Names) (files : List (Path × List Path)) (fs₀ : FS) (curExists : Bool)
    (hcur : curExists = false → fs₀.absent N.swap.cur) :
    (replay (moveOps N.swap files curExists) fs₀).view N.swap.cur = newView N files fs₀ ∧
    (replay (moveOps N.swap files curExists) fs₀).absent N.swap.old ∧
    (replay (moveOps N.swap files curExists) fs₀).absent N.swap.new := by
  rw [moveOps_eq, replay_append]
  exact (swap_states N _ curExists).2

/-- **C03 (no in-place modification of a published file).** No operation of `move_metadata` changes the
    data of any inode: files become visible only by (re)binding names, so a reader holding the old tree
    (or a hard link into it) never sees bytes change. -/
theorem C03_no_inplace_write (sw : Swap) (files : List (Path × List Path)) (fs₀ : FS) (curExists : Bool) (k : Nat) :
    (replay ((moveOps sw files curExists).take k) fs₀).dat = fs₀.dat :=
  replay_dat _ _

/-- **C03 (transfers never write through a live name).** A (variant, alias) attempt only rebinds names of
    its own targets and only writes inodes allocated during the attempt: every inode that existed
    before keeps its data (`Frame.dat`), so a file reachable from the live tree — e.g. through a hard
    link from skel into dists — is never modified in place by a download (`unlink` before `open`). -/
theorem C03_download_no_inplace (root : Path) (f : DFile) (s : DState) (i : Nat) (hi : i < s.fs.next) :
    (downloadOne root f s).fs.dat i = s.fs.dat i :=
  (downloadOne_frame root f s).dat i hi

/-- **C03 (pool files of the live tree are not touched).** A `check_size` file (every Packages/Sources
    entry) whose target already has the declared size is not transferred and the filesystem is left
    exactly as it was: with immutable pool paths, files referenced by the old tree are never rewritten
    while the old tree is live. -/
theorem C03_pool_untouched (root : Path) (f : DFile) (s : DState) (v : Variant) (rest : List Variant)
    (hcs : f.checkSize = true) (hv : f.iterVariants = v :: rest)
    (hsz : s.fs.sizeAt (root ++ v.sourcePath) = some f.size) :
    (downloadOne root f s).fs = s.fs ∧ (downloadOne root f s).reqs = s.reqs := by
  obtain ⟨w, h⟩ := downloadOne_shortcut hcs ⟨v, by rw [hv]; exact List.mem_cons_self, hsz⟩
  rw [h]
  exact ⟨rfl, rfl⟩

/-! ### non-vacuity -/
private def exN : Names := { mirror := ["m"], c := "dists", n := "dists.apt_mirror_new", o := "dists.apt_mirror_old",
                             hcn := by decide, hco := by decide, hno := by decide }
private def exFS : FS := ((FS.empty.addFile ["m", "dists", "s", "Release"] { size := 5, mtime := some 1, tag := 1 }).addFile
    ["skel", "dists", "s", "Release"] { size := 7, mtime := some 2, tag := 2 })
private def exFiles : List (Path × List Path) := [(["skel", "dists", "s", "Release"], [["s", "Release"]])]

/-- a concrete update: old Release (5 bytes) → absent → new Release (7 bytes) -/
example : (replay ((moveOps exN.swap exFiles true).take 3) exFS).view exN.swap.cur ["s", "Release"] = some { size := 5, mtime := some 1, tag := 1 } ∧
          (replay ((moveOps exN.swap exFiles true).take 4) exFS).view exN.swap.cur ["s", "Release"] = none ∧
          (replay ((moveOps exN.swap exFiles true).take 4) exFS).view exN.swap.old ["s", "Release"] = some { size := 5, mtime := some 1, tag := 1 } ∧
          (replay ((moveOps exN.swap exFiles true).take 5) exFS).view exN.swap.cur ["s", "Release"] = some { size := 7, mtime := some 2, tag := 2 } := by
  decide


/-! ## ordering of pool files, metadata and deletions over the whole run (L2) -/
namespace Mirror

/-- **C03 (new metadata only after its files; nothing the old metadata needs is touched before).** Kill the run before any
    operation `k`: either the old metadata is still live and every path that no transfer of this run is responsible for (it is
    not needed by the new version, or it already held a file of the declared size) is exactly as it was; or the new metadata
    is live and every pool file it references is in place with its declared size. -/
theorem C03_order (t : Tree) (need : Need) (hok : NeedOK need) (k : Nat) :
    ((crash t need k).dists = t.dists ∧
      ∀ p, (∀ n ∈ need.pool, n.path = p → present t n = true) → (crash t need k).pool p = t.pool p) ∨
    ((crash t need k).dists = lookupMeta need.mfiles ∧
      ∀ n ∈ need.pool, ∃ f, (crash t need k).pool n.path = some f ∧ f.size = n.size) := by
  obtain ⟨j, h⟩ | ⟨ps, hps, h⟩ := crash_cases t need k <;> rw [h]
  · exact Or.inl ⟨(pool_prefix need.pool t hok.distinct j).1, (pool_prefix need.pool t hok.distinct j).2.2⟩
  · -- the pool stage is complete, the swap has happened, and what has been removed was not needed
    refine Or.inr ⟨(removes_effect ps _).2, fun n hn => ?_⟩
    have hnot : n.path ∉ ps := fun hm => by simpa [keep_of_needed need n hn] using hps _ hm
    rw [(removes_effect ps _).1, if_neg hnot]
    exact present_iff.mp (pool_present _ t hok.distinct hok.sums n hn)

/-- **C03 (files are deleted only after the metadata that no longer references them is live).** A prefix of the run that
    contains a removal contains the swap before it. -/
theorem C03_delete_after_live (t : Tree) (need : Need) (k : Nat) (p : Path)
    (h : Op.remove p ∈ (runOps t need).take k) : ∃ i, i < k ∧ (runOps t need)[i]? = some (.swap need.mfiles) ∧
      ∀ j, j ≤ i → ∀ q, (runOps t need)[j]? ≠ some (.remove q) := by
  have hP := poolOps_no_remove need.pool t
  refine ⟨(poolOps t need.pool).length, ?_, by simp [runOps], fun j hj q hq => ?_⟩
  · -- a removal cannot be among the pool operations
    refine Nat.lt_of_not_le fun hk => hP p (List.mem_of_mem_take ?_ (i := k))
    rwa [runOps, List.append_assoc, List.take_append_of_le_length hk] at h
  · rw [runOps, List.append_assoc] at hq
    rcases Nat.lt_or_eq_of_le hj with hlt | rfl
    · rw [List.getElem?_append_left hlt] at hq
      exact hP q (List.mem_of_getElem? hq)
    · simp at hq

end Mirror

end AptMirror
