import AptMirror.Props.C01
import AptMirror.Props.C09
import AptMirror.Model.Unpack
/-!
# C01 (continued) — the packages named by the published index are all there

The chain of `Props/C01.lean` stops at "every queued required file obtained with its declared size".  This file closes the gap
for binary packages by composing it with C09: the pool queue *is* what `PackagesParser` derives from the index
(`C09_packages_refines`: exactly the stanza-level meaning of the index), each derived file becomes the queue entry
`Index.poolDFile` (model of the `from_path` / `add_compression_variant` glue in `_do_parse_index`), the queue has pairwise
disjoint targets because the parser keys its result by path, and a clean pool stage therefore leaves every derived file that is
not under `ignore_errors` below the mirror root with exactly the size its stanza declares (`C01_packages_pool_complete`).
-/
namespace AptMirror
open Index


theorem poolDFile_variants (pf : PoolFile) :
    (poolDFile pf).variants =
      [{ path := pf.path, comp := compOfSuffix (suffixOf pf.path), size := pf.size.toNat, hashes := [], useByHash := false }] := by
  unfold poolDFile DFile.fromPath DFile.addVariant
  by_cases hc : compOfSuffix (suffixOf pf.path) = Comp.none <;> simp [hc]

theorem poolDFile_flags (pf : PoolFile) :
    (poolDFile pf).checkSize = true ∧ (poolDFile pf).ignoreMissing = false ∧ (poolDFile pf).ignoreErrors = pf.ignoreErrors := by
  unfold poolDFile DFile.fromPath DFile.addVariant
  by_cases hc : compOfSuffix (suffixOf pf.path) = Comp.none <;> simp [hc] <;> (split <;> simp)

theorem poolDFile_iter (pf : PoolFile) :
    (poolDFile pf).iterVariants =
      [{ path := pf.path, comp := compOfSuffix (suffixOf pf.path), size := pf.size.toNat, hashes := [], useByHash := false }] := by
  unfold DFile.iterVariants DFile.variantOf
  rw [poolDFile_variants]
  cases hc : compOfSuffix (suffixOf pf.path) <;> simp [Comp.all, hc]

theorem poolDFile_size (pf : PoolFile) : (poolDFile pf).size = pf.size.toNat := by
  unfold DFile.size
  rw [poolDFile_iter]

theorem poolDFile_allPaths (pf : PoolFile) : (poolDFile pf).allPaths = [pf.path] := by
  unfold DFile.allPaths
  rw [poolDFile_variants]
  simp [Variant.allPaths]

theorem poolDFile_shape (pf : PoolFile) : PoolShape (poolDFile pf) := by
  intro v hv
  rw [poolDFile_variants] at hv
  simp only [List.mem_singleton] at hv
  subst hv
  exact ⟨rfl, Or.inl (poolDFile_size pf).symm⟩

/-- the pool is a dict keyed by path -/
def DistinctPaths (pool : List PoolFile) : Prop := pool.Pairwise (fun a b => a.path ≠ b.path)

theorem poolQueue_disjoint (pool : List PoolFile) (hd : DistinctPaths pool) : DisjointTargets (pool.map poolDFile) := by
  unfold DisjointTargets
  rw [List.pairwise_map]
  refine hd.imp ?_
  intro a b hab p hp hq
  rw [poolDFile_allPaths] at hp hq
  simp only [List.mem_singleton] at hp hq
  exact hab (hp.symm.trans hq)

/-- `putPool` keeps the paths of the pool pairwise distinct -/
theorem putPool_distinct (pool : List PoolFile) (f : PoolFile) (hd : DistinctPaths pool) : DistinctPaths (putPool pool f) := by
  unfold putPool
  split
  · -- replaced in place: the paths are the same list
    have hpaths : (pool.map (fun x => if x.path = f.path then f else x)).map (·.path) = pool.map (·.path) := by
      rw [List.map_map]
      apply List.map_congr_left
      intro x _
      simp only [Function.comp]
      split <;> simp_all
    have h1 : (pool.map (·.path)).Pairwise (· ≠ ·) := by rw [List.pairwise_map]; exact hd
    rw [← hpaths, List.pairwise_map] at h1
    exact h1
  · rename_i hnone
    refine List.pairwise_append.mpr ⟨hd, by simp, ?_⟩
    intro a ha b hb
    simp only [List.mem_singleton] at hb
    subst hb
    simp only [List.any_eq_true, decide_eq_true_eq, not_exists, not_and] at hnone
    exact hnone a ha

theorem flush_distinct (flt : Filter) (ign : List Path) (s : PState) (pool : List PoolFile) (hd : DistinctPaths pool) :
    DistinctPaths (flush flt ign s pool) := by
  unfold flush
  split
  · split
    · exact hd
    · split
      · exact hd
      · exact putPool_distinct _ _ hd
  · exact hd

theorem srcFlush_distinct (flt : Filter) (ign : List Path) (a : SrcAcc) (pool : List PoolFile) (hd : DistinctPaths pool) :
    DistinctPaths (srcFlush flt ign a pool) := by
  unfold srcFlush
  split
  · split
    · exact hd
    · split
      · exact hd
      · generalize a.files = files
        induction files generalizing pool with
        | nil => exact hd
        | cons f fs ih => exact ih _ (putPool_distinct _ _ hd)
  · exact hd

/-- a pool stage that ends without error or missing file, over the queue made of a pool with distinct paths, leaves every
    file of the pool that is not under `ignore_errors` below the mirror root with its declared size -/
theorem pool_stage_complete (root : Path) (pool : List PoolFile) (hdist : DistinctPaths pool)
    (s : DState) (hwf : s.fs.WF) (hbook : s.book.downloaded = [] ∧ s.book.unmodified = [])
    (h0 : s.book.errCount = 0 ∧ s.book.missCount = 0)
    (hclean : (download root (pool.map poolDFile) s).book.errCount = 0 ∧ (download root (pool.map poolDFile) s).book.missCount = 0) :
    ∀ pf ∈ pool, pf.ignoreErrors = false → 0 < pf.size →
      (download root (pool.map poolDFile) s).fs.sizeAt (root ++ pf.path) = some pf.size.toNat := by
  intro pf hpf hig hsz
  obtain ⟨hcs, him, hie⟩ := poolDFile_flags pf
  obtain ⟨v, hv, _, hsound⟩ := C01_clean_stage_sizes root (pool.map poolDFile) s hwf hbook h0 (poolQueue_disjoint pool hdist)
    (fun f hf _ => by
      obtain ⟨x, _, rfl⟩ := List.mem_map.mp hf
      exact poolDFile_shape x)
    hclean (poolDFile pf) (List.mem_map.mpr ⟨pf, hpf, rfl⟩) (by rw [hie]; exact hig) him
  rw [poolDFile_variants] at hv
  simp only [List.mem_singleton] at hv
  subst hv
  exact hsound (show 0 < pf.size.toNat by omega) pf.path (by simp [Variant.allPaths])

/-- **C01 (every package the published Packages index names is there with its declared size).** The pool queue is what
    `PackagesParser` derives from the index: by `C09_packages_refines` exactly one `(Filename, Size)` per stanza that has Package,
    Filename and a non-zero Size and passes the filters. If the pool stage over that queue ends without error and without a
    missing file (which exit status 0 implies, `C01_exit0_all_stages_clean`), then every derived file that is not under an
    `ignore_errors` path exists below the mirror root with exactly the size its stanza declares - for every sequence of
    well-formed stanzas, every upstream behaviour (oracle) and every prior tree. -/
theorem C01_packages_pool_complete (root : Path) (flt : Filter) (ign : List Path) (sts : List Stanza) (last : Stanza)
    (hb : ∀ st ∈ sts, 1 ≤ st.blanks) (hok : ∀ st ∈ sts ++ [last], ∀ f ∈ st.fields, f.OK) (pool : List PoolFile)
    (hparse : packagesMachine flt ign ((sts ++ [last]).flatMap Stanza.lines) [] = .ok pool)
    (s : DState) (hwf : s.fs.WF) (hbook : s.book.downloaded = [] ∧ s.book.unmodified = [])
    (h0 : s.book.errCount = 0 ∧ s.book.missCount = 0)
    (hclean : (download root (pool.map poolDFile) s).book.errCount = 0 ∧ (download root (pool.map poolDFile) s).book.missCount = 0) :
    ∀ pf ∈ pool, pf.ignoreErrors = false → 0 < pf.size →
      (download root (pool.map poolDFile) s).fs.sizeAt (root ++ pf.path) = some pf.size.toNat := by
  rw [C09_packages_refines flt ign sts last hb hok []] at hparse
  exact pool_stage_complete root pool
    (stanzas_invariant _ (flush_distinct flt ign) _ _ _ _ List.Pairwise.nil hparse) s hwf hbook h0 hclean

/-- **C01 (every source file the published Sources index names is there with its declared size).** Same composition as
    `C01_packages_pool_complete`, for Sources: the pool queue is what `SourcesParser` derives (`C09_sources_refines`: one file per
    distinct safe name of the stanza's checksum sections, placed under its Directory), each becomes the queue entry
    `Index.poolDFile`, and a pool stage that ends without error or missing file leaves every one of them that is not under
    `ignore_errors` below the mirror root with the size its entry declares. -/
theorem C01_sources_pool_complete (root : Path) (flt : Filter) (ign : List Path) (sts : List SrcStanza) (last : SrcStanza)
    (hb : ∀ st ∈ sts, 1 ≤ st.blanks) (hok : ∀ st ∈ sts ++ [last], ∀ f ∈ st.fields, f.OK) (pool : List PoolFile)
    (hparse : sourcesMachine flt ign ((sts ++ [last]).flatMap SrcStanza.lines) [] = .ok pool)
    (s : DState) (hwf : s.fs.WF) (hbook : s.book.downloaded = [] ∧ s.book.unmodified = [])
    (h0 : s.book.errCount = 0 ∧ s.book.missCount = 0)
    (hclean : (download root (pool.map poolDFile) s).book.errCount = 0 ∧ (download root (pool.map poolDFile) s).book.missCount = 0) :
    ∀ pf ∈ pool, pf.ignoreErrors = false → 0 < pf.size →
      (download root (pool.map poolDFile) s).fs.sizeAt (root ++ pf.path) = some pf.size.toNat := by
  rw [C09_sources_refines flt ign sts last hb hok []] at hparse
  exact pool_stage_complete root pool
    (stanzas_invariant _ (srcFlush_distinct flt ign) _ _ _ _ List.Pairwise.nil hparse) s hwf hbook h0 hclean

end AptMirror

/-! ## which variant of an index is parsed -/

namespace AptMirror
namespace Unpack

/-- **C01 (the index that is parsed is the one that was obtained).** The index stage obtains one variant `v` of a group; the
    skel cleaner, which runs between the index stage and the pool stage, keeps of this group exactly the obtained variant's
    paths; then whatever older variants a previous run left in skel, the pool stage unpacks and parses `v` - the file whose size
    this run checked against the Release (C05), not a stale one of higher priority. -/
theorem C01_unpacked_is_obtained (present : Comp → Bool) (v : Comp) (hv : present v = true) :
    choice (afterSkelClean present (fun c => c == v)) = some v := by
  unfold choice afterSkelClean Comp.all
  have e1 : (Comp.xz == Comp.gz) = false := by decide
  have e2 : (Comp.xz == Comp.bz2) = false := by decide
  have e3 : (Comp.xz == Comp.none) = false := by decide
  have e4 : (Comp.gz == Comp.bz2) = false := by decide
  have e5 : (Comp.gz == Comp.none) = false := by decide
  have e6 : (Comp.bz2 == Comp.none) = false := by decide
  cases v <;> simp [List.find?, hv, e1, e2, e3, e4, e5, e6]

/-- without the skel clean in between (the reordering that independent reviewers re-invented five times as a "harmless"
    change), a stale `.xz` of an earlier run wins over the `.gz` that was obtained -/
theorem C01_legacy_stale_variant_counterexample :
    choice (fun c => c == .xz || c == .gz) = some .xz ∧ choice (afterSkelClean (fun c => c == .xz || c == .gz) (fun c => c == .gz)) = some .gz := by
  decide

/-- nothing obtained, nothing parsed: after the clean no variant of a group that was not obtained is left -/
theorem C01_unobtained_not_parsed (present : Comp → Bool) : choice (afterSkelClean present (fun _ => false)) = none := by
  unfold choice afterSkelClean Comp.all
  simp [List.find?]

end Unpack
end AptMirror
