import AptMirror.Model.Http
/-!
# C18 — HTTP transport reports what the server did and honours transport settings (partial)

> Against a real HTTP server a 2xx response is reported with the server's Content-Length and Last-Modified and streams exactly
> the body bytes, 4xx is reported as missing, 5xx and connection or protocol failures as errors, a body shorter than its
> Content-Length aborts the transfer, and redirects are followed, so that the end-to-end guarantees C01, C02 and C05 hold over
> real HTTP exactly as over a simulated transport. Every request carries the configured User-Agent and URL credentials, goes
> through the configured proxy (with its credentials) when one is enabled, and over TLS uses the configured CA bundle,
> verification switch and client certificate.

Proved here: the decision logic that is the tool's own — the status/exception mapping of `HTTPDownloader.stream` and how
`download_file` reads it (`C18_status_contract`, `C18_exception_contract`), which transport serves a request and what it was
built with (`C18_settings_reach_transport`; false for the client certificate before fix F-C18a:
`C18_legacy_cert_counterexample`), the verification switch (`C18_verify_table`), proxy selection (`C18_proxy_table`) and that
percent-encoded proxy credentials decode to exactly the configured ones and cannot be confused with URL syntax
(`C18_quote_roundtrip`, `C18_quote_clean`).  Because C05/C12 are proved for *every* response script, they hold for every
behaviour the mapping can produce.  Wire behaviour of httpx/h11/h2/ssl is exercised on a loopback server, not proved.
Known finding F-C18b: a protocol failure other than "Server disconnected" is reported as a free retry, not as an error
(`C18_legacy_protocol_retry_counterexample`; `C18_protocol_failure_is_error_partial` holds for the remaining cases).
-/
namespace AptMirror
namespace Http

/-- **C18 (status mapping).** 2xx: the body is read, with the announced length and date passed on unchanged; 4xx: missing;
    5xx: error — as seen by `download_file`. -/
theorem C18_status_contract (m : Mode) (st : Nat) (cl : Option Nat) (lm : Option Int) (body : Nat) (abort : Bool) (tag : Nat) :
    (200 ≤ st ∧ st < 300 → toResp (classify m (.response st cl lm)) body abort tag = .ok cl lm body abort tag) ∧
    (400 ≤ st ∧ st < 500 → toResp (classify m (.response st cl lm)) body abort tag = .missing) ∧
    (500 ≤ st ∧ st < 600 → toResp (classify m (.response st cl lm)) body abort tag = .error) := by
  refine ⟨?_, ?_, ?_⟩ <;> intro h <;> simp only [classify, toResp]
  · have h1 : ¬ (400 ≤ st ∧ st < 500) := by omega
    have h2 : ¬ (500 ≤ st ∧ st < 600) := by omega
    simp [h1, h2]
  · simp [h]
  · have h1 : ¬ (400 ≤ st ∧ st < 500) := by omega
    simp [h1, h]

/-- a response is never both missing and an error -/
theorem C18_exclusive (m : Mode) (w : Wire) : ¬ ((classify m w).missing = true ∧ (classify m w).error = true) := by
  cases w with
  | response st cl lm => simp only [classify, decide_eq_true_eq]; omega
  | protocolError d => cases m <;> simp [classify]
  | otherException => simp [classify]

/-- **C18 (connection failures are errors).** Every exception other than a RemoteProtocolError, and a RemoteProtocolError
    saying the server disconnected (reset before the headers), is reported as an error and consumes a try. -/
theorem C18_exception_contract (m : Mode) (body : Nat) (abort : Bool) (tag : Nat) :
    toResp (classify m .otherException) body abort tag = .error ∧
    toResp (classify m (.protocolError true)) body abort tag = .error := by
  cases m <;> simp [classify, toResp]

/-- **C18 (protocol failures are errors) — partial.** With the strict mapping every failure is an error.  The code as it
    stands is `legacy`; see the counterexample below (finding F-C18b). -/
theorem C18_protocol_failure_is_error_partial (d : Bool) (body : Nat) (abort : Bool) (tag : Nat) :
    toResp (classify .strict (.protocolError d)) body abort tag = .error := by
  simp [classify, toResp]

/-- F-C18b: a protocol failure whose message is not "Server disconnected…" (malformed Content-Length, a non-HTTP answer) is
    reported as `retry` with no error: `download_file` then repeats the request without consuming a try. -/
theorem C18_legacy_protocol_retry_counterexample :
    toResp (classify .legacy (.protocolError false)) 0 false 0 = .retry := by decide

/-- **C18 (the verification switch).** -/
theorem C18_verify_table (s : Settings) :
    (s.noCheck = true → s.verify = .off) ∧
    (s.noCheck = false → s.caBundle ≠ "" → s.verify = .bundle s.caBundle) ∧
    (s.noCheck = false → s.caBundle = "" → s.verify = .system) := by
  refine ⟨?_, ?_, ?_⟩ <;> intros <;> simp_all [Settings.verify]

/-- **C18 (settings reach the wire).** Whatever is configured, the transport that serves an http:// or https:// request was
    built with the configured verification mode, the configured client certificate (with its key when one is given), the
    proxy selected for that scheme, and HTTP/2 unless disabled. -/
theorem C18_settings_reach_transport (s : Settings) (scheme : String) (h : scheme = "http" ∨ scheme = "https") :
    transportFor true s scheme =
      { verify := s.verify, cert := s.clientCert, proxy := s.proxy.forScheme scheme, http2 := !s.http2Disable } := by
  rcases h with rfl | rfl <;> simp [transportFor, mounts, select, List.find?]

/-- F-C18a (fixed): before the fix the mounted transports were built without `cert=`, and since both schemes are always
    mounted the certificate-bearing default transport never served a request. -/
theorem C18_legacy_cert_counterexample :
    ∃ s : Settings, s.clientCert ≠ none ∧ (transportFor false s "https").cert = none :=
  ⟨{ noCheck := false, caBundle := "", certificate := "client.pem", privateKey := "", proxy := ⟨false, "", ""⟩, http2Disable := false },
   by decide, by decide⟩

/-- **C18 (proxy selection).** No proxy unless enabled; each scheme uses its own proxy setting only. -/
theorem C18_proxy_table (p : ProxyCfg) :
    (p.useProxy = false → ∀ sch, p.forScheme sch = none) ∧
    (p.useProxy = true → p.forScheme "http" = (if p.httpProxy ≠ "" then some p.httpProxy else none)) ∧
    (p.useProxy = true → p.forScheme "https" = (if p.httpsProxy ≠ "" then some p.httpsProxy else none)) := by
  refine ⟨?_, ?_, ?_⟩
  · intro h sch; simp [ProxyCfg.forScheme, h]
  · intro h; simp [ProxyCfg.forScheme, h]
  · intro h; simp [ProxyCfg.forScheme, h]

theorem unquote_cons_ne (b : Nat) (r : List Nat) (h : b ≠ 37) : unquote (b :: r) = b :: unquote r := by
  match r with
  | [] => rfl
  | [c] => rfl
  | c :: d :: r' => simp [unquote, h]

/-- the sixteen hex digits: each decodes to its nibble and is one of `0-9A-F` -/
theorem hexDigit_spec : ∀ n < 16, unhex (hexDigit n) = some n ∧
    ((48 ≤ hexDigit n ∧ hexDigit n ≤ 57) ∨ (65 ≤ hexDigit n ∧ hexDigit n ≤ 70)) := by decide

/-- **C18 (proxy credentials arrive as configured).** Decoding the percent-encoded user name / password gives back exactly
    the configured bytes — spaces, `+`, `@`, `:`, `/`, `%` and non-ASCII included. -/
theorem C18_quote_roundtrip (bs : List Nat) (h : ∀ b ∈ bs, b < 256) : unquote (quote bs) = bs := by
  induction bs with
  | nil => rfl
  | cons b rest ih =>
    have hb : b < 256 := h b List.mem_cons_self
    have ih' := ih (fun c hc => h c (List.mem_cons_of_mem _ hc))
    unfold quote
    split
    · rename_i hu
      rw [unquote_cons_ne _ _ (by rintro rfl; revert hu; decide), ih']
    · simp only [unquote, if_true, (hexDigit_spec _ (show b / 16 < 16 by omega)).1, (hexDigit_spec _ (Nat.mod_lt b (by decide))).1, ih']
      congr 1
      omega

/-- the encoded credentials consist of unreserved characters, `%` and hex digits only: no `:`, `@`, `/`, `+`, `?`, `#`
    that could be mistaken for URL syntax or be decoded differently by the receiver -/
theorem C18_quote_clean (bs : List Nat) (h : ∀ b ∈ bs, b < 256) :
    ∀ c ∈ quote bs, isUnreserved c = true ∨ c = 37 ∨ (48 ≤ c ∧ c ≤ 57) ∨ (65 ≤ c ∧ c ≤ 70) := by
  induction bs with
  | nil => nofun
  | cons b rest ih =>
    have hb : b < 256 := h b List.mem_cons_self
    have ih' := ih (fun c hc => h c (List.mem_cons_of_mem _ hc))
    intro c hc
    unfold quote at hc
    split at hc
    · rcases List.mem_cons.mp hc with rfl | hc
      · exact .inl ‹_›
      · exact ih' c hc
    · simp only [List.mem_cons] at hc
      rcases hc with rfl | rfl | rfl | hc
      · exact .inr (.inl rfl)
      · exact .inr (.inr (hexDigit_spec _ (by omega)).2)
      · exact .inr (.inr (hexDigit_spec _ (Nat.mod_lt b (by decide))).2)
      · exact ih' c hc

/-! ### non-vacuity -/
example : quote [117, 32, 43, 64, 58, 47, 37, 195, 169] = [117, 37, 50, 48, 37, 50, 66, 37, 52, 48, 37, 51, 65, 37, 50, 70, 37, 50, 53, 37, 67, 51, 37, 65, 57] := by decide
example : unquote (quote [117, 32, 43, 64, 58, 47, 37, 195, 169]) = [117, 32, 43, 64, 58, 47, 37, 195, 169] := by decide
example : (classify .legacy (.response 404 (some 2) none)).missing = true ∧ (classify .legacy (.response 503 none none)).error = true := by decide
example : transportFor true { noCheck := false, caBundle := "ca.pem", certificate := "c.pem", privateKey := "k.pem", proxy := ⟨true, "p:3128", ""⟩, http2Disable := true } "http"
    = { verify := .bundle "ca.pem", cert := some (.pair "c.pem" "k.pem"), proxy := some "p:3128", http2 := false } := by decide

end Http
end AptMirror
