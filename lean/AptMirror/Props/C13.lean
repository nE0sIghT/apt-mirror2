import AptMirror.Model.Lock
/-!
# C13 — only one instance operates on a var_path at a time

> For every interleaving of concurrently started processes that share a var_path, at most one of them is
> inside the mirroring section at any time; every other process exits non-zero without modifying skel,
> mirror or the clean scripts. A lock file left behind by a killed process never blocks later runs.

Model: `Model/Lock.lean`.  `Proto.fixed` is the protocol of the code after the fix (open, flock, compare the
inode of the descriptor with the inode of the path, …, unlink while still holding the lock, close);
`Proto.legacy` is the original (open, flock, …, close, then unlink).  The theorems quantify over every
schedule: any number of processes, any interleaving of their steps, kills at any point.
-/
namespace AptMirror
namespace Lock

def holds : PC → Bool
  | .locked | .inside | .left | .unlinked => true
  | _ => false

structure Inv (k : K) : Prop where
  fresh_name : ∀ i, k.name = some i → i < k.next
  fresh_fd : ∀ p i, (k.procs p).fd = some i → i < k.next
  holder_fd : ∀ i p, k.holder i = some p → (k.procs p).fd = some i ∧ holds (k.procs p).pc = true
  holds_holder : ∀ p, holds (k.procs p).pc = true → ∃ i, (k.procs p).fd = some i ∧ k.holder i = some p
  live_name : ∀ p, ((k.procs p).pc = .inside ∨ (k.procs p).pc = .left) → k.name = (k.procs p).fd
  opened_fd : ∀ p, (k.procs p).pc = .opened → ∃ i, (k.procs p).fd = some i

theorem inv_init : Inv init := by
  constructor <;> simp [init, holds]

@[simp] theorem setProc_self (k : K) (p : Nat) (x : Proc) : (k.setProc p x).procs p = x := by simp [K.setProc]
@[simp] theorem setProc_other (k : K) (p q : Nat) (x : Proc) (h : q ≠ p) : (k.setProc p x).procs q = k.procs q := by
  simp [K.setProc, h]
@[simp] theorem setProc_name (k : K) (p : Nat) (x : Proc) : (k.setProc p x).name = k.name := rfl
@[simp] theorem setProc_next (k : K) (p : Nat) (x : Proc) : (k.setProc p x).next = k.next := rfl
@[simp] theorem setProc_holder (k : K) (p : Nat) (x : Proc) : (k.setProc p x).holder = k.holder := rfl
@[simp] theorem release_name (k : K) (p : Nat) : (k.release p).name = k.name := rfl
@[simp] theorem release_next (k : K) (p : Nat) : (k.release p).next = k.next := rfl
@[simp] theorem release_procs (k : K) (p : Nat) : (k.release p).procs = k.procs := rfl

theorem release_holder (k : K) (p i q : Nat) : (k.release p).holder i = some q ↔ (k.holder i = some q ∧ q ≠ p) := by
  simp only [K.release]
  by_cases h : k.holder i = some p
  · simp [h]; intro e; exact e.symm
  · simp [h]
    intro hq e; subst e; exact h hq

/-- a step or kill of `p`, under either protocol, leaves the record of every other process alone -/
theorem stepProc_procs_other (proto : Proto) (k : K) (p : Nat) (a : Act) (q : Nat) (h : q ≠ p) :
    (stepProc proto k p a).procs q = k.procs q := by
  fun_cases stepProc proto k p a <;> simp only [setProc_other _ _ _ _ h, release_procs]

/-- a process that is inside or has just left holds the lock on the inode the lock file names -/
theorem Inv.live {k : K} (h : Inv k) {p : Nat} (hp : (k.procs p).pc = .inside ∨ (k.procs p).pc = .left) :
    ∃ i, k.name = some i ∧ (k.procs p).fd = some i ∧ k.holder i = some p := by
  obtain ⟨i, hfd, hh⟩ := h.holds_holder p (by rcases hp with e | e <;> rw [e] <;> rfl)
  exact ⟨i, (h.live_name p hp).trans hfd, hfd, hh⟩

/-- mutual exclusion: at most one process is inside or has just left -/
theorem Inv.live_unique {k : K} (h : Inv k) {p q : Nat} (hp : (k.procs p).pc = .inside ∨ (k.procs p).pc = .left)
    (hq : (k.procs q).pc = .inside ∨ (k.procs q).pc = .left) : p = q := by
  obtain ⟨i, hi, _, hip⟩ := h.live hp
  obtain ⟨j, hj, _, hjq⟩ := h.live hq
  cases hi.symm.trans hj
  exact Option.some.inj (hip.symm.trans hjq)

/-- **the preservation principle.**  Every transition of the protocol rewrites the record of one process `p` and possibly the
    name, the inode counter and the lock table.  The invariant survives if the other processes keep their locks, inode numbers
    only grow, the lock file is renamed only while no other process is inside or has just left, and the new record of `p`
    satisfies the clauses of the invariant. -/
theorem Inv.upd {k : K} (h : Inv k) (p : Nat) (n' : Option Nat) (nx' : Nat) (hd' : Nat → Option Nat) (x : Proc)
    (hnext : k.next ≤ nx') (hholder : ∀ q, q ≠ p → ∀ i, hd' i = some q ↔ k.holder i = some q)
    (hname : ∀ i, n' = some i → i < nx')
    (hlive : ∀ q, q ≠ p → ((k.procs q).pc = .inside ∨ (k.procs q).pc = .left) → n' = k.name)
    (hfd : ∀ i, x.fd = some i → i < nx') (hhf : ∀ i, hd' i = some p → x.fd = some i ∧ holds x.pc = true)
    (hhh : holds x.pc = true → ∃ i, x.fd = some i ∧ hd' i = some p)
    (hln : (x.pc = .inside ∨ x.pc = .left) → n' = x.fd) (hop : x.pc = .opened → ∃ i, x.fd = some i) :
    Inv (K.setProc ⟨n', nx', hd', k.procs⟩ p x) := by
  refine ⟨hname, fun q => ?_, fun i q => ?_, fun q => ?_, fun q => ?_, fun q => ?_⟩ <;> by_cases hq : q = p
  · rw [hq, setProc_self]; exact hfd
  · rw [setProc_other _ _ _ _ hq]; exact fun i hi => Nat.lt_of_lt_of_le (h.fresh_fd q i hi) hnext
  · rw [hq, setProc_self]; exact hhf i
  · rw [setProc_other _ _ _ _ hq]; exact fun hi => h.holder_fd i q ((hholder q hq i).mp hi)
  · rw [hq, setProc_self]; exact hhh
  · rw [setProc_other _ _ _ _ hq]; exact fun hh => (h.holds_holder q hh).imp fun i hi => ⟨hi.1, (hholder q hq i).mpr hi.2⟩
  · rw [hq, setProc_self]; exact hln
  · rw [setProc_other _ _ _ _ hq]; exact fun hl => (hlive q hq hl).trans (h.live_name q hl)
  · rw [hq, setProc_self]; exact hop
  · rw [setProc_other _ _ _ _ hq]; exact h.opened_fd q

/-- a process that holds no lock -/
theorem Inv.holds_false {k : K} (h : Inv k) {p : Nat} (hp : holds (k.procs p).pc = false) (i : Nat) : k.holder i ≠ some p :=
  fun hi => Bool.false_ne_true (hp.symm.trans (h.holder_fd i p hi).2)

/-- the process disappears from the protocol, dropping whatever it holds (kill, failed verify, final close) -/
theorem inv_drop (k : K) (h : Inv k) (p : Nat) (ok : Bool) : Inv ((k.release p).setProc p { pc := .done ok, fd := none }) :=
  h.upd p k.name k.next (k.release p).holder _ (hnext := Nat.le_refl _)
    (hholder := fun q hq i => (release_holder k p i q).trans (and_iff_left hq)) (hname := h.fresh_name) (hlive := fun _ _ _ => rfl)
    (hfd := nofun) (hhf := fun i hi => absurd rfl ((release_holder k p i p).mp hi).2) (hhh := nofun) (hln := nofun) (hop := nofun)

/-- `closed` (close before unlink) is not a state of the fixed protocol -/
theorem step_noclosed (k : K) (hn : ∀ q, (k.procs q).pc ≠ .closed) (p : Nat) (a : Act) :
    ∀ q, ((stepProc .fixed k p a).procs q).pc ≠ .closed := by
  intro q
  by_cases hqp : q = p
  · subst hqp
    have key : ∀ proto, proto = .fixed → ((stepProc proto k q a).procs q).pc ≠ .closed := by
      intro proto
      fun_cases stepProc proto k q a <;> intro e <;> simp [hn q] at e ⊢
    exact key _ rfl
  · rw [stepProc_procs_other _ _ _ _ _ hqp]; exact hn q

/-- every step of every process (and every kill) preserves the invariant -/
theorem step_inv (k : K) (h : Inv k) (hnc : ∀ q, (k.procs q).pc ≠ .closed) (p : Nat) (a : Act) :
    Inv (stepProc .fixed k p a) := by
  -- the transitions that change neither the name nor the lock table
  have move : ∀ x : Proc, (∀ i, x.fd = some i → i < k.next) →
      (∀ i, k.holder i = some p → x.fd = some i ∧ holds x.pc = true) →
      (holds x.pc = true → ∃ i, x.fd = some i ∧ k.holder i = some p) →
      ((x.pc = .inside ∨ x.pc = .left) → k.name = x.fd) → (x.pc = .opened → ∃ i, x.fd = some i) → Inv (k.setProc p x) :=
    fun x => h.upd p k.name k.next k.holder x (Nat.le_refl _) (fun _ _ _ => Iff.rfl) h.fresh_name (fun _ _ _ => rfl)
  cases a with
  | kill =>
    cases hpc : (k.procs p).pc <;> simp only [stepProc, hpc]
    all_goals first | exact h | exact inv_drop k h p false
  | step =>
    cases hpc : (k.procs p).pc with
    | start =>
      have hnh : holds (k.procs p).pc = false := by rw [hpc]; rfl
      cases hname : k.name with
      | some i =>
        simp only [stepProc, hpc, hname]
        exact move _ (fun j hj => Option.some.inj hj ▸ h.fresh_name i hname) (fun j hj => absurd hj (h.holds_false hnh j))
          nofun nofun (fun _ => ⟨i, rfl⟩)
      | none =>
        -- a fresh inode is allocated and named; nobody is inside or has just left, since the lock file had no name
        simp only [stepProc, hpc, hname]
        exact h.upd p _ _ k.holder _ (hnext := Nat.le_succ _) (hholder := fun _ _ _ => Iff.rfl)
          (hname := fun j hj => Option.some.inj hj ▸ Nat.lt_succ_self _)
          (hlive := fun q _ hq => by obtain ⟨i, hi, _⟩ := h.live hq; rw [hname] at hi; cases hi)
          (hfd := fun j hj => Option.some.inj hj ▸ Nat.lt_succ_self _) (hhf := fun j hj => absurd hj (h.holds_false hnh j))
          (hhh := nofun) (hln := nofun) (hop := fun _ => ⟨_, rfl⟩)
    | opened =>
      have hnh : holds (k.procs p).pc = false := by rw [hpc]; rfl
      obtain ⟨i, hfd⟩ := h.opened_fd p hpc
      by_cases hfree : k.holder i = none
      · -- flock succeeds: `p` now holds the inode of its descriptor, which nobody held
        simp only [stepProc, hpc, hfd, hfree, if_true]
        refine h.upd p k.name k.next _ _ (hnext := Nat.le_refl _) (hholder := fun q hq j => ?_) (hname := h.fresh_name)
          (hlive := fun _ _ _ => rfl) (hfd := fun j hj => Option.some.inj hj ▸ h.fresh_fd p i hfd)
          (hhf := fun j hj => ⟨?_, rfl⟩) (hhh := fun _ => ⟨i, rfl, if_pos rfl⟩) (hln := nofun) (hop := nofun)
        · by_cases e : j = i
          · simp [e, hfree, Ne.symm hq]
          · simp [e]
        · by_cases e : j = i
          · rw [e]
          · exact absurd (by simpa [e] using hj) (h.holds_false hnh j)
      · simp only [stepProc, hpc, hfd, hfree, if_false]
        exact move _ nofun (fun j hj => absurd hj (h.holds_false hnh j)) nofun nofun nofun
    | locked =>
      have hh : holds (k.procs p).pc = true := by rw [hpc]; rfl
      by_cases hname : k.name = (k.procs p).fd
      · simp only [stepProc, hpc, hname, if_true]
        exact move _ (h.fresh_fd p) (fun j hj => ⟨(h.holder_fd j p hj).1, rfl⟩) (fun _ => h.holds_holder p hh) (fun _ => hname) nofun
      · simp only [stepProc, hpc, hname, if_false]
        exact inv_drop k h p false
    | inside =>
      simp only [stepProc, hpc]
      exact move _ (h.fresh_fd p) (fun j hj => ⟨(h.holder_fd j p hj).1, rfl⟩) (fun _ => h.holds_holder p (by rw [hpc]; rfl))
        (fun _ => h.live_name p (Or.inl hpc)) nofun
    | left =>
      -- unlink while holding the lock: nobody else is inside or has just left
      simp only [stepProc, hpc]
      exact h.upd p none k.next k.holder _ (hnext := Nat.le_refl _) (hholder := fun _ _ _ => Iff.rfl) (hname := nofun)
        (hlive := fun q hq hl => absurd (h.live_unique hl (Or.inr hpc)) hq) (hfd := h.fresh_fd p)
        (hhf := fun j hj => ⟨(h.holder_fd j p hj).1, rfl⟩) (hhh := fun _ => h.holds_holder p (by rw [hpc]; rfl))
        (hln := nofun) (hop := nofun)
    | closed => exact absurd hpc (hnc p)
    | unlinked => simp only [stepProc, hpc]; exact inv_drop k h p true
    | done ok => simp only [stepProc, hpc]; exact h

theorem run_inv (sched : List (Nat × Act)) (k : K) (h : Inv k) (hnc : ∀ q, (k.procs q).pc ≠ .closed) :
    Inv (run .fixed sched k) ∧ ∀ q, ((run .fixed sched k).procs q).pc ≠ .closed := by
  induction sched generalizing k with
  | nil => exact ⟨h, hnc⟩
  | cons pa rest ih =>
    simp only [run, List.foldl_cons]
    exact ih _ (step_inv k h hnc pa.1 pa.2) (step_noclosed k hnc pa.1 pa.2)

/-- **C13 (mutual exclusion).** For every number of processes and every interleaving of their protocol steps and
    of kills, at most one process is inside the mirroring section. -/
theorem C13_mutex (sched : List (Nat × Act)) (p q : Nat)
    (hp : insideP (run .fixed sched init) p = true) (hq : insideP (run .fixed sched init) q = true) : p = q := by
  simp only [insideP, decide_eq_true_eq] at hp hq
  exact (run_inv sched init inv_init (by simp [init])).1.live_unique (Or.inl hp) (Or.inl hq)

/-- the same as a count: among any duplicate-free list of pids at most one is inside -/
theorem C13_mutex_count (sched : List (Nat × Act)) (pids : List Nat) (hnd : pids.Nodup) :
    (insiders (run .fixed sched init) pids).length ≤ 1 := by
  unfold insiders
  match hl : pids.filter (insideP (run .fixed sched init)) with
  | [] => simp
  | [_] => simp
  | a :: b :: rest =>
    exfalso
    have ha : a ∈ pids.filter (insideP (run .fixed sched init)) := by rw [hl]; simp
    have hb : b ∈ pids.filter (insideP (run .fixed sched init)) := by rw [hl]; simp
    have hab := C13_mutex sched a b (List.mem_filter.mp ha).2 (List.mem_filter.mp hb).2
    have hnd' := hnd.filter (insideP (run .fixed sched init))
    rw [hl, hab] at hnd'
    simp at hnd'

/-- **C13 (losers exit non-zero, touching nothing).** A process that finds the lock taken ends with a failure status;
    the lock file name, every lock and every other process are exactly as before. -/
theorem C13_losers_exit (proto : Proto) (k : K) (p i r : Nat) (hpc : (k.procs p).pc = .opened) (hfd : (k.procs p).fd = some i)
    (htaken : k.holder i = some r) :
    ((stepProc proto k p .step).procs p).pc = .done false ∧ (stepProc proto k p .step).name = k.name ∧
    (stepProc proto k p .step).holder = k.holder ∧ ∀ q, q ≠ p → (stepProc proto k p .step).procs q = k.procs q := by
  refine ⟨?_, ?_, ?_, stepProc_procs_other proto k p .step⟩ <;> simp [stepProc, hpc, hfd, htaken]

/-- a process that starts while the lock file names an inode nobody holds is inside after its three steps -/
theorem enter_free (k : K) (q i : Nat) (hq : (k.procs q).pc = .start) (hname : k.name = some i) (hfree : k.holder i = none) :
    ((stepProc .fixed (stepProc .fixed (stepProc .fixed k q .step) q .step) q .step).procs q).pc = .inside := by
  simp [stepProc, hq, hname, hfree]

/-- **C13 (a stale lock file never blocks).** If the process inside is killed, the lock file stays behind; a process that
    starts afterwards opens it, gets the lock, passes the inode check and is inside after its three steps. -/
theorem C13_stale_lock_free (k : K) (h : Inv k) (p q : Nat) (hp : (k.procs p).pc = .inside) (hq : (k.procs q).pc = .start) :
    let k1 := stepProc .fixed k p .kill
    ((stepProc .fixed (stepProc .fixed (stepProc .fixed k1 q .step) q .step) q .step).procs q).pc = .inside := by
  have hpq : q ≠ p := by intro e; subst e; rw [hp] at hq; cases hq
  obtain ⟨i, hname, _, hhi⟩ := h.live (Or.inl hp)
  have hk1 : stepProc .fixed k p .kill = (k.release p).setProc p { pc := .done false, fd := none } := by
    simp only [stepProc, hp]
  refine enter_free _ q i ?_ ?_ ?_ <;> rw [hk1]
  · rw [setProc_other _ _ _ _ hpq]; exact hq
  · exact hname
  · exact if_pos hhi

/-- **C13 (the original protocol is broken).** Close-then-unlink: A finishes and closes, B opens the same inode and locks it,
    A unlinks the name, C creates a new lock file and locks that — B and C are inside together (finding F-C13a). -/
theorem C13_legacy_counterexample :
    let sched : List (Nat × Act) :=
      [(0, .step), (0, .step), (0, .step), (0, .step), (0, .step),   -- A: open, flock, enter, leave, close
       (1, .step), (1, .step), (1, .step),                             -- B: open (same inode), flock, enter
       (0, .step),                                                     -- A: unlink
       (2, .step), (2, .step), (2, .step)]                             -- C: open (new inode), flock, enter
    insiders (run .legacy sched init) [0, 1, 2] = [1, 2] := by decide

/-- the same schedule under the fixed protocol: C's open creates a new inode only after A's unlink, which A performs
    while still holding the lock, so B cannot have locked the old inode; here B fails its flock -/
theorem C13_fixed_same_schedule :
    let sched : List (Nat × Act) :=
      [(0, .step), (0, .step), (0, .step), (0, .step), (0, .step),
       (1, .step), (1, .step), (1, .step), (0, .step), (2, .step), (2, .step), (2, .step)]
    (insiders (run .fixed sched init) [0, 1, 2]).length ≤ 1 := by decide

end Lock
end AptMirror
