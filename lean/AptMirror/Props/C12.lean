import AptMirror.Lemmas.Requests
/-!
# C12 — retries are bounded and every run terminates

> For every sequence of upstream responses of the kinds success, 404, 5xx, wrong length, short or
> long body and mid-stream abort, each URL is requested at most ten times per fetch round (…), a
> file is given up once all its variants and alias URLs are exhausted, and the run terminates with
> an exit status. Transient failures shorter than the retry budget are absorbed (…), and the
> number of requests per path does not depend on how failures of different files interleave.

Termination: `attempt`, `tryLoop`, `tryAliases`, `tryVariants`, `downloadFile`, `download` are total
functions defined by structural recursion (no fuel, no `partial`); a response script is a finite
list, which is exactly the property's "transport-level reconnect signals are outside the
quantifier" (finitely many of them; they consume no try).  The release-stage round bound is
`C11_rounds_*` (Props/C11.lean); order independence of request counts is a corollary of C15.
-/
namespace AptMirror

/-- **C12 (per-URL bound, one transfer).** `download_file` requests URL `u` at most ten times for each
    (variant, alias) pair that names `u`, plus once per reconnect signal in `u`'s script. -/
theorem C12_file_bound (root : Path) (f : DFile) (s : DState) (u : Path) :
    (downloadFile root f s).reqs.count u
      ≤ s.reqs.count u + retries (s.orc u) + 10 * occurrences u f.iterVariants := by
  have h := downloadFile_pot root f s u
  unfold DState.pot at h
  omega

/-- **C12 (per-URL bound, one fetch round).** Over a whole `download()` of any queue, URL `u` is requested
    at most `10 ×` (number of (file, variant, alias) triples naming `u`) `+` reconnect signals. With
    distinct URLs per triple — what Release/Packages/Sources-derived queues have — this is "at most ten
    times per fetch round". -/
theorem C12_per_url_bound (root : Path) (q : List DFile) (s : DState) (u : Path) :
    (download root q s).reqs.count u
      ≤ s.reqs.count u + retries (s.orc u)
        + 10 * (q.reverse.map fun f => occurrences u f.iterVariants).sum := by
  have h := foldl_downloadOne_pot root q.reverse s u
  unfold download
  unfold DState.pot at h
  omega

/-- **C12 (no reconnects ⇒ hard bound).** With no reconnect signal in `u`'s script and a single
    (file, variant, alias) naming `u`, at most ten requests of `u` are made. -/
theorem C12_ten (root : Path) (f : DFile) (s : DState) (u : Path)
    (hr : retries (s.orc u) = 0) (h1 : occurrences u f.iterVariants ≤ 1) (h0 : s.reqs.count u = 0) :
    (downloadFile root f s).reqs.count u ≤ 10 := by
  have := C12_file_bound root f s u
  have : 10 * occurrences u f.iterVariants ≤ 10 := by omega
  omega

/-- **C12 (other URLs untouched).** A transfer never requests a URL that is not one of its own aliases. -/
theorem C12_only_own_urls (root : Path) (f : DFile) (s : DState) (u : Path)
    (h : occurrences u f.iterVariants = 0) :
    (downloadFile root f s).reqs.count u ≤ s.reqs.count u + retries (s.orc u) := by
  have := C12_file_bound root f s u
  rw [h] at this; omega

/-- A response after which the loop tries again (consuming one try), for a file that is neither
    ignorable nor optional. -/
def Resp.failsFor (v : Variant) : Resp → Prop
  | .retry => False
  | .missing => True
  | .error => True
  | .ok a _ b ab _ => 0 < v.size ∧ sizeTruthy a = false ∧ (ab = true ∨ b ≠ v.size)

/-- A response the loop accepts by downloading: no (or matching) announced length, complete body. -/
def Resp.goodFor (v : Variant) : Resp → Prop
  | .ok a _ b ab _ => ab = false ∧ (0 < v.size → b = v.size) ∧ sizeTruthy a = false
  | _ => False

/-- a script that begins with an answer: that answer is given, no reconnect signal is met -/
theorem request_cons {s : DState} {u : Path} {r : Resp} {rest : List Resp} (h : s.orc u = r :: rest) (hr : r ≠ .retry) :
    ∃ s1, s.request u = (r, s1) ∧ s1.orc u = rest := by
  unfold DState.request
  have : dropRetries (r :: rest) = (0, r :: rest) := by
    cases r <;> simp [dropRetries] at hr ⊢
  rw [h, this]
  exact ⟨_, rfl, by simp⟩

/-- a good answer fails the tests of the four cases that do not download -/
theorem attempt_good {root : Path} {f : DFile} {v : Variant} {src : Path} {s s1 : DState} {err : Bool} {r : Resp}
    (hreq : s.request src = (r, s1)) (hr : r.goodFor v) : ∃ s', attempt root f v src s err = .accept s' := by
  have hnot : ∀ a d b ab t, r = .ok a d b ab t → sizeTruthy a = true → False := by
    rintro a d b ab t rfl h; rw [hr.2.2] at h; cases h
  refine attempt_cases root f v src s err (P := fun a => ∃ s', a = .accept s') ?_ ?_ ?_ ?_ ?_
  · intro _ _ _ h hl; rw [hreq] at h; cases h
    cases r with
    | ok a d b ab t => exact (hnot _ _ _ _ _ rfl (hl _ _ _ _ _ rfl).2.1).elim
    | _ => exact hr.elim
  · intro _ _ h _ hl; rw [hreq] at h; cases h
    cases r with
    | ok a d b ab t => exact (hnot _ _ _ _ _ rfl (hl _ _ _ _ _ rfl).2.1).elim
    | _ => exact hr.elim
  · intro _ _ _ _ _ _ h _ _ hb; rw [hreq] at h; cases h
    rcases hb with hb | hb
    · rw [hr.1] at hb; cases hb
    · exact absurd (hr.2.1 hb.1).symm hb.2
  · intro _ _ _ _ _ _ h _ htru _; rw [hreq] at h; cases h; exact (hnot _ _ _ _ _ rfl htru).elim
  · intro _ _ _ _ _ _ _ _ _ _ _; exact ⟨_, rfl⟩

/-- a failing answer is rejected, and not by `stop` unless the file is ignorable -/
theorem attempt_fails {root : Path} {f : DFile} {v : Variant} {src : Path} {s s1 : DState} {err : Bool} {r : Resp}
    (hig : f.ignoreErrors = false ∧ f.ignoreMissing = false) (hreq : s.request src = (r, s1)) (hr : r.failsFor v) :
    ∃ s' e', attempt root f v src s err = .again s' e' ∧ s'.orc = s1.orc := by
  refine attempt_cases root f v src s err (P := fun a => ∃ s' e', a = .again s' e' ∧ s'.orc = s1.orc) ?_ ?_ ?_ ?_ ?_
  · intro _ _ _ h _; rw [hreq] at h; cases h; exact ⟨_, _, rfl, rfl⟩
  · intro _ _ _ h _; rcases h with h | h
    · rw [hig.1] at h; cases h
    · rw [hig.2] at h; cases h
  · intro _ _ _ _ _ _ h _ _ _; rw [hreq] at h; cases h; exact ⟨_, _, rfl, rfl⟩
  · intro _ _ _ _ _ _ h _ htru _; rw [hreq] at h; cases h; rw [hr.2.1] at htru; cases htru
  · intro _ _ _ _ _ _ h _ _ hab hsz; rw [hreq] at h; cases h
    rcases hr.2.2 with h' | h'
    · rw [hab] at h'; cases h'
    · exact absurd ⟨hr.1, fun e => h' e.symm⟩ hsz

/-- **C12 (transient failures are absorbed).** If the URL first fails fewer than `n` times (404, 5xx, short,
    long or aborted body) and then answers well, the loop with `n` tries accepts. -/
theorem C12_transient_absorbed (root : Path) (f : DFile) (v : Variant) (src : Path)
    (hig : f.ignoreErrors = false ∧ f.ignoreMissing = false)
    (bad : List Resp) (good : Resp) (rest : List Resp) (n : Nat) (hn : bad.length < n)
    (hbad : ∀ r ∈ bad, r.failsFor v) (hgood : good.goodFor v)
    (s : DState) (err : Bool) (hs : s.orc src = bad ++ good :: rest) :
    (tryLoop root f v src n s err).1 = .accepted := by
  induction bad generalizing s err n with
  | nil =>
    obtain ⟨n, rfl⟩ : ∃ m, n = m + 1 := ⟨n - 1, by simp at hn; omega⟩
    obtain ⟨s1, hreq, _⟩ := request_cons (r := good) hs (fun h => by rw [h] at hgood; exact hgood)
    obtain ⟨s', h⟩ := attempt_good (root := root) (f := f) (err := err) hreq hgood
    unfold tryLoop
    rw [h]
  | cons r bad ih =>
    obtain ⟨n, rfl⟩ : ∃ m, n = m + 1 := ⟨n - 1, by simp at hn; omega⟩
    have hr := hbad r List.mem_cons_self
    obtain ⟨s1, hreq, horc⟩ := request_cons (r := r) hs (fun h => by rw [h] at hr; exact hr)
    obtain ⟨s', e', h, ho⟩ := attempt_fails (root := root) (err := err) hig hreq hr
    unfold tryLoop
    rw [h]
    exact ih n (by simp at hn; omega) (fun r hr => hbad r (List.mem_cons_of_mem _ hr)) s' e' (by rw [ho, horc]; rfl)

/-! ### non-vacuity -/
private def exV : Variant := { path := ["p"], comp := .none, size := 3, hashes := [], useByHash := false }
private def exF : DFile := { path := ["p"], variants := [exV], checkSize := false, ignoreErrors := false, ignoreMissing := false }
private def exS (l : List Resp) : DState := { fs := FS.empty, book := {}, orc := fun p => if p = ["p"] then l else [], reqs := [] }

/-- twelve consecutive 5xx: exactly ten requests, file counted as error -/
example : (downloadFile [] exF (exS (List.replicate 12 .error))).reqs.length = 10 ∧
          (downloadFile [] exF (exS (List.replicate 12 .error))).book.errCount = 1 := by decide
/-- reconnect signals do not consume tries: 3 reconnects + 10 errors = 13 requests -/
example : (downloadFile [] exF (exS (List.replicate 3 .retry ++ List.replicate 12 .error))).reqs.length = 13 := by decide
/-- nine failures then success: obtained -/
example : (downloadFile [] exF (exS (List.replicate 9 .error ++ [.ok none none 3 false 1]))).book.downloaded.length = 1 := by decide

end AptMirror
