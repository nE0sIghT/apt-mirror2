import AptMirror.Lemmas.Config
/-!
# C17 — configuration semantics: union of lines, order independence, option scoping

> The set of (repository, codename or flat directory, component, architecture / source) tuples to mirror
> is exactly the union of what each deb line specifies on its own; it does not depend on the order of
> lines or of included files, on trailing slashes in URLs, or on whether architectures are written as
> deb-<arch> or as [arch=...]. Per-repository options (…) affect only the repository whose URL they
> name, and boolean, size and $variable settings evaluate as documented.

Model: `Model/Config.lean` — `fromLine` (character-level model of `RepositoryConfig.from_line`), `addLine`/`load`
(`to_repository` / `update_repository`: nested insertion-ordered dictionaries with `setdefault`), `tuples`,
`findKey` (`URLDict._find_key`), `getBool`, `getSize`.  The model describes the code after fix d7a84c6 (each
component owns its architecture list); the shared-list behaviour of the original code is refuted by
`C17_legacy_alias_counterexample` on an explicit heap model of that one aliasing.
-/
namespace AptMirror
namespace Cfg
open Str

/-- what a single parsed line asks for -/
def LineSem (l : LineCfg) (t : Tuple) : Prop :=
  t.repo = l.key ∧
  if l.isFlat then t.component = [] ∧ (∃ c ∈ l.codenames, t.codename = rstrip '/' c) ∧ lineFlatWhat l t.what
  else t.codename ∈ l.codenames ∧ t.component ∈ l.components ∧ lineWhat l t.what

theorem lineSem_std {l : LineCfg} (h : l.isFlat = false) (t : Tuple) :
    LineSem l t ↔ ∃ cn ∈ l.codenames, ∃ c ∈ l.components, Is l.key cn c (lineWhat l) t := by
  simp only [LineSem, h, Is]
  constructor
  · rintro ⟨h1, h2, h3, h4⟩; exact ⟨_, h2, _, h3, h4, h1, rfl, rfl⟩
  · rintro ⟨_, h2, _, h3, h4, h1, rfl, rfl⟩; exact ⟨h1, h2, h3, h4⟩

theorem lineSem_flat {l : LineCfg} (h : l.isFlat = true) (t : Tuple) :
    LineSem l t ↔ ∃ c ∈ l.codenames, Is l.key (rstrip '/' c) [] (lineFlatWhat l) t := by
  simp only [LineSem, h, Is]
  constructor
  · rintro ⟨h1, h2, ⟨c, hc, h3⟩, h4⟩; exact ⟨c, hc, h4, h1, h3, h2⟩
  · rintro ⟨c, hc, h4, h1, h3, h2⟩; exact ⟨h1, h2, ⟨c, hc, h3⟩, h4⟩

/-- the tuples of the repository a line creates when its URL is new -/
theorem mem_repoTuples_new (l : LineCfg) (t : Tuple) :
    t ∈ repoTuples { key := l.key, kind := if l.isFlat then .flat (l.codenames.foldl (mergeFlat l) [])
                                              else .std (l.codenames.foldl (mergeCodename l) []) } ↔ LineSem l t := by
  cases hf : l.isFlat
  · simp only [repoTuples_eq, mem_foldl_mergeCodename, lineSem_std hf, Bool.false_eq_true, ↓reduceIte, List.flatMap_nil, List.not_mem_nil, false_or]
  · simp only [repoTuples_eq, mem_foldl_mergeFlat, lineSem_flat hf, ↓reduceIte, List.flatMap_nil, List.not_mem_nil, false_or]

/-- repository keys are unique (URLDict is a dictionary) -/
def Uniq (repos : List RepoRec) : Prop := (repos.map (·.key)).Nodup

theorem uniq_eq {repos : List RepoRec} (hu : Uniq repos) {a b : RepoRec} (ha : a ∈ repos) (hb : b ∈ repos)
    (hk : a.key = b.key) : a = b := by
  induction repos with
  | nil => cases ha
  | cons x xs ih =>
    unfold Uniq at hu
    simp only [List.map_cons, List.nodup_cons, List.mem_map, not_exists, not_and] at hu
    rcases List.mem_cons.mp ha with rfl | ha' <;> rcases List.mem_cons.mp hb with rfl | hb'
    · rfl
    · exact absurd hk.symm (hu.1 b hb')
    · exact absurd hk (hu.1 a ha')
    · exact ih hu.2 ha' hb'

theorem uniq_map_kind {repos : List RepoRec} (hu : Uniq repos) (f : RepoRec → RepoRec) (hf : ∀ k, (f k).key = k.key) :
    Uniq (repos.map f) := by
  unfold Uniq at *
  rw [List.map_map]
  have : ((fun x => x.key) ∘ f) = (fun x => x.key) := by funext k; exact hf k
  rw [this]; exact hu

/-- one `deb` line adds exactly what the line asks for -/
theorem addLine_tuples {repos repos' : List RepoRec} {l : LineCfg} (hu : Uniq repos) (h : addLine repos l = .ok repos') :
    Uniq repos' ∧ ∀ t, t ∈ tuples repos' ↔ t ∈ tuples repos ∨ LineSem l t := by
  unfold addLine at h
  split at h
  · -- the URL is new
    rename_i hfind
    cases h
    refine ⟨?_, fun t => ?_⟩
    · simp only [Uniq, List.map_append, List.map_cons, List.map_nil]
      refine List.nodup_append.mpr ⟨hu, by simp, ?_⟩
      intro a ha b hb
      obtain ⟨r, hr, rfl⟩ := List.mem_map.mp ha
      cases List.mem_singleton.mp hb
      simpa using List.find?_eq_none.mp hfind r hr
    · simp only [tuples, List.mem_flatMap]
      exact exists_mem_append_new _ repos (mem_repoTuples_new l t)
  · -- the URL has a repository `r`; by uniqueness it is the only entry the update touches
    rename_i r hfind
    have hrk : r.key = l.key := by simpa using List.find?_some hfind
    have hr : r ∈ repos := List.mem_of_find?_eq_some hfind
    have honly : ∀ k ∈ repos, k.key = l.key → k = r := fun k hk hkk => uniq_eq hu hk hr (hkk.trans hrk.symm)
    split at h
    case h_3 => cases h
    -- a standard repository and a standard line, or a flat repository and a flat line
    all_goals
      rename_i _ hkind hflat
      cases h
      refine ⟨uniq_map_kind hu _ (fun k => by split <;> rfl), fun t => ?_⟩
      simp only [tuples, List.mem_flatMap]
      refine exists_mem_map_update RepoRec.key l.key _ repos ⟨r, hr, hrk⟩ fun k hk hkk => ?_
      cases honly k hk hkk
      simp only [repoTuples_eq, hkind, mem_foldl_mergeCodename, mem_foldl_mergeFlat, lineSem_std, lineSem_flat, hflat, hrk]

theorem mem_tuples_foldlM : ∀ (ls : List LineCfg) (acc repos : List RepoRec), Uniq acc → ls.foldlM addLine acc = .ok repos →
    ∀ t, t ∈ tuples repos ↔ t ∈ tuples acc ∨ ∃ l ∈ ls, LineSem l t
  | [], acc, repos, _, h, t => by cases h; simp
  | l :: ls, acc, repos, hu, h, t => by
    obtain ⟨acc', hacc, h⟩ := Except.bind_eq_ok.mp h
    obtain ⟨hu', hstep⟩ := addLine_tuples hu hacc
    rw [mem_tuples_foldlM ls acc' repos hu' h t, hstep t]
    simp [or_assoc]

/-- the tuples of a loaded configuration are what its lines ask for -/
theorem mem_tuples_load {ls : List LineCfg} {repos : List RepoRec} (h : load ls = .ok repos) (t : Tuple) :
    t ∈ tuples repos ↔ ∃ l ∈ ls, LineSem l t := by
  simpa [tuples] using mem_tuples_foldlM ls [] repos List.nodup_nil h t

theorem load_single (l : LineCfg) : ∃ r1, load [l] = .ok r1 := ⟨_, rfl⟩

/-- **C17 (union of lines).** When a list of `deb` lines loads, the tuples to mirror are exactly the union of
    the tuples each line yields when it is the only line of the configuration. -/
theorem C17_union (ls : List LineCfg) (repos : List RepoRec) (h : load ls = .ok repos) (t : Tuple) :
    t ∈ tuples repos ↔ ∃ l ∈ ls, ∃ r1, load [l] = .ok r1 ∧ t ∈ tuples r1 := by
  have single : ∀ l r1, load [l] = .ok r1 → (t ∈ tuples r1 ↔ LineSem l t) := fun l r1 h1 => by
    simp [mem_tuples_load h1]
  rw [mem_tuples_load h]
  constructor
  · rintro ⟨l, hl, hs⟩
    obtain ⟨r1, h1⟩ := load_single l
    exact ⟨l, hl, r1, h1, (single l r1 h1).mpr hs⟩
  · rintro ⟨l, hl, r1, h1, ht⟩
    exact ⟨l, hl, (single l r1 h1).mp ht⟩

/-- **C17 (order independence).** Two configurations whose lines are permutations of each other (also across
    included files, which are concatenated) yield the same tuples. -/
theorem C17_perm (ls ls' : List LineCfg) (hp : ls.Perm ls') (r r' : List RepoRec)
    (h : load ls = .ok r) (h' : load ls' = .ok r') (t : Tuple) : t ∈ tuples r ↔ t ∈ tuples r' := by
  simp only [mem_tuples_load h, mem_tuples_load h', hp.mem_iff]

/-- **C17 (trailing slashes, deb-<arch> vs [arch=…]).** The tuples of a line depend only on its parsed key
    (URL without trailing slashes), architectures, source flag, codenames and components. -/
theorem C17_line_ext (l l' : LineCfg) (hk : l.key = l'.key) (ha : ∀ a, a ∈ l.arches ↔ a ∈ l'.arches)
    (hs : l.source = l'.source) (hc : l.codenames = l'.codenames) (hp : l.components = l'.components) (t : Tuple) :
    LineSem l t ↔ LineSem l' t := by
  have hflat : l.isFlat = l'.isFlat := by simp [LineCfg.isFlat, hc]
  have hw : lineWhat l t.what ↔ lineWhat l' t.what := by cases t.what <;> simp [lineWhat, ha, hs]
  have hfw : lineFlatWhat l t.what ↔ lineFlatWhat l' t.what := by
    cases t.what <;> simp [lineFlatWhat, hs, List.eq_nil_iff_forall_not_mem, ha]
  simp only [LineSem, hk, hflat, hc, hp, hw, hfw]

theorem rstrip_id_of_no_trailing (s : S) (h : s.getLast? ≠ some '/') : rstrip '/' s = s := by
  unfold rstrip
  have : s.reverse.dropWhile (· = '/') = s.reverse := by
    cases hr : s.reverse with
    | nil => rfl
    | cons c cs =>
      have hl : s.getLast? = some c := by
        rw [← List.head?_reverse, hr]; rfl
      have hc : c ≠ '/' := by intro hc; subst hc; exact h hl
      simp [List.dropWhile, hc]
  rw [this, List.reverse_reverse]

/-- **C17 (option scoping).** Repository keys never end in a slash; an option line naming URL `u` selects the
    repository whose key is `u` without its trailing slashes, and no repository otherwise. -/
theorem C17_findKey_scope (keys : List S) (u : S) (hk : ∀ k ∈ keys, k.getLast? ≠ some '/') :
    findKey keys u = if keys.contains (rstrip '/' u) then some (rstrip '/' u) else none := by
  unfold findKey
  by_cases h2 : u.getLast? = some '/'
  · -- `u` ends in a slash, so it is no key itself
    have : u ∉ keys := fun h => hk u h h2
    simp [h2, this]
  · -- `u` is its own stripped form, and `u/` is no key
    have : u ++ ['/'] ∉ keys := fun h => hk _ h (by simp)
    simp [h2, this, rstrip_id_of_no_trailing u h2]

-- `String.toList_ofList` first: the kernel is slow to decode `"…".toList` of a literal (superlinear in its length);
-- the rewrite puts the character list in its place without evaluating anything.
/-- **C17 (booleans and sizes as documented)**: the documented table, decided by evaluation. -/
theorem C17_getBool_table :
    getBool "".toList = false ∧ getBool "0".toList = false ∧ getBool "off".toList = false ∧ getBool "OFF".toList = false ∧
    getBool "no".toList = false ∧ getBool "No".toList = false ∧ getBool "1".toList = true ∧ getBool "on".toList = true ∧
    getBool "yes".toList = true ∧ getSize "100".toList = some 100 ∧ getSize "10k".toList = some 10240 ∧
    getSize "10K".toList = some 10240 ∧ getSize "3m".toList = some 3145728 ∧ getSize "12x".toList = none := by
  repeat rw [String.toList_ofList]
  decide +kernel

/-! ### sizes and booleans, for every value (the table above is a sample) -/

/-- decimal value of a digit string -/
def decValue (d : S) : Nat := d.foldl (fun n c => n * 10 + (c.toNat - '0'.toNat)) 0

theorem getSize_digits {d : S} (hne : d ≠ []) (hd : d.all Char.isDigit = true) : getSize d = some (decValue d) := by
  obtain ⟨c, hl⟩ : ∃ c, d.getLast? = some c := by
    cases h : d.getLast? with
    | none => exact absurd (List.getLast?_eq_none_iff.mp h) hne
    | some c => exact ⟨c, rfl⟩
  have hc : c.isDigit = true := List.all_eq_true.mp hd c (List.mem_of_getLast? hl)
  simp [getSize, hl, hc, hd, hne, decValue]

theorem getSize_suffix {d : S} (hne : d ≠ []) (hd : d.all Char.isDigit = true) {c : Char} (hc : c.isDigit = false) :
    getSize (d ++ [c]) = if c.toLower = 'k' then some (decValue d * 1024)
      else if c.toLower = 'm' then some (decValue d * 1024 * 1024) else none := by
  have hemp : d.isEmpty = false := by cases d with | nil => exact absurd rfl hne | cons _ _ => rfl
  unfold getSize
  simp only [List.getLast?_append, List.getLast?_singleton, Option.some_or, List.dropLast_concat, hc, hemp, hd,
    Bool.false_eq_true, if_false, Bool.false_or, Bool.not_true]
  rfl

/-- **C17 (`get_size`, unbounded).** For every non-empty string of decimal digits `d`: `d` itself means that many bytes, `d` followed by
    `k`/`K` means `d × 1024`, followed by `m`/`M` means `d × 1024 × 1024`, and followed by any other ASCII character that is not a
    digit it is rejected (`none` = the ValueError).  (ASCII: Python's `lower()`, `isnumeric()` and `int()` know more characters than
    the model - the Kelvin sign U+212A lower-cases to `k`, full-width digits are digits; such values are outside the model.) -/
theorem C17_getSize_spec (d : S) (hne : d ≠ []) (hd : d.all Char.isDigit = true) :
    getSize d = some (decValue d) ∧
    (∀ c, c.toLower = 'k' → c.isDigit = false → getSize (d ++ [c]) = some (decValue d * 1024)) ∧
    (∀ c, c.toLower = 'm' → c.isDigit = false → getSize (d ++ [c]) = some (decValue d * 1024 * 1024)) ∧
    (∀ c, c.toNat < 128 → c.isDigit = false → c.toLower ≠ 'k' → c.toLower ≠ 'm' → getSize (d ++ [c]) = none) := by
  refine ⟨getSize_digits hne hd, fun c hk hc => ?_, fun c hm hc => ?_, fun c _ hc hk hm => ?_⟩ <;>
    rw [getSize_suffix hne hd hc]
  · rw [if_pos hk]
  · rw [hm]; rfl
  · rw [if_neg hk, if_neg hm]

/-- **C17 (`get_bool`, unbounded).** A value is false exactly when it is empty or, in any capitalisation, one of `0`, `off`, `no`. -/
theorem C17_getBool_spec (v : S) :
    getBool v = false ↔ v = [] ∨ v.map Char.toLower = "0".toList ∨ v.map Char.toLower = "off".toList ∨ v.map Char.toLower = "no".toList := by
  unfold getBool
  cases v with
  | nil => simp
  | cons c cs =>
    simp only [List.isEmpty_cons, Bool.not_false, Bool.true_and, Bool.not_eq_false', List.contains_cons, List.contains_nil,
      Bool.or_false, Bool.or_eq_true, beq_iff_eq, reduceCtorEq, false_or]

example : getSize "100k".toList = some (100 * 1024) := by
  have := (C17_getSize_spec "100".toList (by decide) (by decide)).2.1 'k' (by decide) (by decide)
  simpa [decValue] using this

/-! ### skip-clean: which repositories a skip-clean URL protects -/

/-- `u` is the repository URL without its trailing slashes, or lies below it -/
theorem isPartOf_iff (r u : S) : isPartOf r u = true ↔ u = rstrip '/' r ∨ ∃ t, u = rstrip '/' r ++ '/' :: t := by
  simp only [isPartOf, Bool.or_eq_true, decide_eq_true_eq, List.isPrefixOf_iff_prefix, List.IsPrefix, List.append_assoc,
    List.singleton_append, @eq_comm _ _ u]

/-- **C17 (skip-clean is matched at path boundaries, not by string prefix; regression of F-C17b, unbounded).** A skip-clean URL that
    merely starts with the characters of a repository URL - `…/debian-security/x` against `…/debian` - does not name that
    repository. -/
theorem C17_skipClean_boundary (base rest : S) (c : Char) (hb : base.getLast? ≠ some '/') (hc : c ≠ '/') :
    isPartOf base (base ++ c :: rest) = false := by
  rw [Bool.eq_false_iff, Ne, isPartOf_iff, rstrip_id_of_no_trailing base hb]
  rintro (h | ⟨t, h⟩)
  · simpa using congrArg List.length h
  · exact hc (List.cons.inj (List.append_cancel_left h)).1

/-- **C17 (nested repositories are both protected; unbounded).** For an outer repository `o` and an inner one `o/x`, a skip-clean URL
    at or below the inner one names both (and any repository list keeps exactly those it is a part of). -/
theorem C17_skipClean_nested (o x y : S) (ho : o.getLast? ≠ some '/') (hx : (o ++ '/' :: x).getLast? ≠ some '/') :
    isPartOf o (o ++ '/' :: x ++ '/' :: y) = true ∧ isPartOf (o ++ '/' :: x) (o ++ '/' :: x ++ '/' :: y) = true ∧
    isPartOf o (o ++ '/' :: x) = true ∧ isPartOf (o ++ '/' :: x) (o ++ '/' :: x) = true := by
  simp only [isPartOf_iff, rstrip_id_of_no_trailing o ho, rstrip_id_of_no_trailing _ hx]
  exact ⟨.inr ⟨x ++ '/' :: y, by simp⟩, .inr ⟨y, rfl⟩, .inr ⟨x, rfl⟩, .inl trivial⟩

theorem C17_skipClean_scope (repos : List S) (u r : S) :
    r ∈ skipCleanTargets repos u ↔ r ∈ repos ∧ isPartOf r u = true := by
  simp [skipCleanTargets, List.mem_filter]

example : skipCleanTargets ["http://h/debian".toList, "http://h/debian-security".toList, "http://h/debian/pve".toList]
    "http://h/debian/pve/pool/keep".toList = ["http://h/debian".toList, "http://h/debian/pve".toList] := by
  repeat rw [String.toList_ofList]
  decide +kernel

/-! ### the original code: one shared architecture list per line (regression witness) -/

/-- explicit heap model of the aliasing in the original `update_repository`/`to_repository`: all components created
    by one line point to the same cell -/
def legacyTwoLines (first second : List S × List S) : List (S × List S) :=
  -- (components, arches) of two lines for the same URL and codename; returns component ↦ arches
  let cell0 := first.2                                   -- the list object of line 1
  let comps0 := first.1.map fun c => (c, 0)              -- every component of line 1 points to cell 0
  -- line 2: existing components get its arches appended *in place*, new ones point to cell 1
  let cell0' := second.1.foldl (fun cell c => if comps0.any (·.1 = c) then second.2.foldl addArch cell else cell) cell0
  let comps1 := (second.1.filter fun c => !comps0.any (·.1 = c)).map fun c => (c, 1)
  (comps0 ++ comps1).map fun (c, i) => (c, if i = 0 then cell0' else second.2)

/-- F-C17a: `deb-amd64 U stable main contrib` then `deb-i386 U stable main` gives contrib i386 as well, and the
    reversed order does not: the original code violates both the union and the order-independence clause. -/
theorem C17_legacy_alias_counterexample :
    legacyTwoLines (["main".toList, "contrib".toList], ["amd64".toList]) (["main".toList], ["i386".toList]) =
      [("main".toList, ["amd64".toList, "i386".toList]), ("contrib".toList, ["amd64".toList, "i386".toList])] ∧
    legacyTwoLines (["main".toList], ["i386".toList]) (["main".toList, "contrib".toList], ["amd64".toList]) =
      [("main".toList, ["i386".toList, "amd64".toList]), ("contrib".toList, ["amd64".toList])] := by
  repeat rw [String.toList_ofList]
  decide +kernel

/-! ### non-vacuity -/
example : (fromLine "deb-amd64 http://h/debian/ stable main contrib".toList "amd64".toList).toOption.map (·.components.length) = some 2 := by
  repeat rw [String.toList_ofList]
  decide +kernel
example : (load [{ key := "u".toList, arches := ["amd64".toList], source := false, codenames := ["stable".toList],
                   components := ["main".toList, "contrib".toList], byHash := .yes },
                 { key := "u".toList, arches := ["i386".toList], source := true, codenames := ["stable".toList],
                   components := ["main".toList], byHash := .yes }]).toOption.map (fun r => (tuples r).length) = some 4 := by
  repeat rw [String.toList_ofList]
  decide +kernel

end Cfg
end AptMirror
