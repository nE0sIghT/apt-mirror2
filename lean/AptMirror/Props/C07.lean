import AptMirror.Props.C03
import AptMirror.Props.C13
import AptMirror.Lemmas.Mirror
import AptMirror.Lemmas.Frame
import AptMirror.Lemmas.Requests
/-!
# C07 — a crash at any point leaves a usable mirror; the next good run converges

> If the process is killed at any point of a run, the mirror on disk still satisfies the visibility guarantee of C03 (old
> tree or new tree; at worst dists absent with the old tree intact under its temporary name) and no file needed by the
> live metadata has been deleted. The next run that exits 0 produces exactly the tree an uninterrupted run would have
> produced: no *.apt_mirror_* directories or probe files left, no truncated file accepted as complete, and a lock file left
> by the dead process does not prevent the run.

A crash state is a prefix of the run's mutation sequence.  Proved on the models: every prefix of the publish step is a
legal state (`C07_crash_during_publish`, = C03), transfers never write into existing inodes and never touch complete pool
files (`C07_crash_during_transfers`), a rerun ignores and removes whatever a dead run left under the temporary names
(`C07_leftovers_ignored`, `C07_no_leftovers`), a partial file is never taken for complete (`C07_partial_not_unmodified`,
`C07_partial_not_shortcut`), and a stale lock file does not block (`C13_stale_lock_free`).  "The rerun yields exactly the
uninterrupted tree" as a whole is checked on the implementation from every crash point of real runs (partial, DESIGN §9).
-/
namespace AptMirror

/-- **C07 (crash during the swap).** Killing the process after any number `k` of the filesystem operations of
    `move_metadata` leaves `<top>` showing the old tree, the complete new tree, or nothing with the old tree intact under
    `<top>.apt_mirror_old`. -/
theorem C07_crash_during_publish (N : Names) (files : List (Path × List Path)) (fs₀ : FS) (curExists : Bool)
    (hcur : curExists = false → fs₀.absent N.swap.cur) (k : Nat) :
    LiveOK N (fs₀.view N.swap.cur) (newView N files fs₀) (replay ((moveOps N.swap files curExists).take k) fs₀) :=
  C03_publish_prefix N files fs₀ curExists hcur k

/-- **C07 (crash during transfers).** Whatever prefix of a queue has been processed when the process dies, every inode that
    existed before still has its data (nothing is modified in place), and every name outside the processed files' targets is
    bound as before: a published tree, and complete pool files, cannot be damaged by a dying transfer stage. -/
theorem C07_crash_during_transfers (root : Path) (done : List DFile) (s : DState) :
    (∀ i, i < s.fs.next → (done.foldl (fun acc f => downloadOne root f acc) s).fs.dat i = s.fs.dat i) ∧
    (∀ q, (∀ f ∈ done, q ∉ f.targets root) → (done.foldl (fun acc f => downloadOne root f acc) s).fs.ino q = s.fs.ino q) := by
  have h := queue_frame root done s
  refine ⟨h.dat, fun q hq => h.ino q fun hm => ?_⟩
  obtain ⟨f, hf, hm⟩ := List.mem_flatMap.mp hm
  exact hq f hf hm

theorem FS.ext' (a b : FS) (h1 : a.ino = b.ino) (h2 : a.dat = b.dat) (h3 : a.next = b.next) (h4 : a.dom = b.dom) : a = b := by
  cases a; cases b; simp only at h1 h2 h3 h4; subst h1 h2 h3 h4; rfl

/-- two filesystems that differ only below the two temporary names -/
def SameOutsideTemps (N : Names) (a b : FS) : Prop :=
  a.dat = b.dat ∧ ∀ q, isPrefix N.swap.new q = false → isPrefix N.swap.old q = false → a.ino q = b.ino q

theorem replay_ino_congr (ops : List Op) (a b : FS) (h : a.ino = b.ino) : (replay ops a).ino = (replay ops b).ino := by
  induction ops generalizing a b with
  | nil => exact h
  | cons op rest ih =>
    simp only [replay, List.foldl_cons] at ih ⊢
    apply ih
    cases op <;> simp [Op.apply, FS.relink, FS.renameDir, FS.rmtree, FS.unlink, h]

/-- **C07 (leftovers of a dead run are ignored).** What the rerun publishes does not depend on anything a previous, killed
    run left under `<top>.apt_mirror_new` or `<top>.apt_mirror_old`: the first thing `move_metadata` does is remove them. -/
theorem C07_leftovers_ignored (N : Names) (files : List (Path × List Path)) (a b : FS) (h : SameOutsideTemps N a b) :
    newView N files a = newView N files b := by
  obtain ⟨hd, hi⟩ := h
  unfold newView prepOps
  have hino : ((a.rmtree N.swap.new).rmtree N.swap.old).ino = ((b.rmtree N.swap.new).rmtree N.swap.old).ino := by
    funext q
    simp only [FS.rmtree]
    by_cases h1 : isPrefix N.swap.old q = true
    · simp [h1]
    · by_cases h2 : isPrefix N.swap.new q = true
      · simp [h1, h2]
      · simp [h1, h2]; exact hi q (by simpa using h2) (by simpa using h1)
  rw [replay_append, replay_append]
  funext rel
  simp only [FS.view]
  have h1 := replay_ino_congr (stageOps N.swap files) (replay [Op.rmtree N.swap.new, Op.rmtree N.swap.old] a)
    (replay [Op.rmtree N.swap.new, Op.rmtree N.swap.old] b) hino
  rw [h1, replay_dat, replay_dat, replay_dat, replay_dat, hd]

/-- **C07 (no leftovers after a completed run).** -/
theorem C07_no_leftovers (N : Names) (files : List (Path × List Path)) (fs₀ : FS) (curExists : Bool)
    (hcur : curExists = false → fs₀.absent N.swap.cur) :
    (replay (moveOps N.swap files curExists) fs₀).absent N.swap.old ∧
    (replay (moveOps N.swap files curExists) fs₀).absent N.swap.new :=
  (C03_publish_final N files fs₀ curExists hcur).2

/-- **C07 (a truncated metadata file is not taken for unmodified).** A file left by an interrupted transfer carries the local
    write time, not an upstream date (S5): `need_update` says it must be fetched again, whatever the server announces. -/
theorem C07_partial_not_unmodified (fs : FS) (p : Path) (d : FileData) (hd : fs.dataAt p = some d) (hm : d.mtime = none)
    (a : Option Nat) (date : Option Int) : needUpdate fs p a date = true := by
  unfold needUpdate
  rw [hd]
  cases date with
  | none => rfl
  | some dt =>
    cases a with
    | none => rfl
    | some n => simp [hm]

/-- **C07 (a truncated pool file is not short-cut).** The `check_size` short-cut only fires on a target whose size equals the
    declared size. -/
theorem C07_partial_not_shortcut (root : Path) (f : DFile) (fs : FS) (vs : List Variant)
    (h : ∀ v ∈ vs, fs.sizeAt (root ++ v.sourcePath) ≠ some f.size) : sizeShortcut root f fs vs = none := by
  induction vs with
  | nil => rfl
  | cons v rest ih =>
    unfold sizeShortcut
    rw [if_neg (h v List.mem_cons_self)]
    exact ih (fun w hw => h w (List.mem_cons_of_mem _ hw))

/-- **C07 (stale lock).** Restated from C13: after the process inside is killed, a new process gets in. -/
theorem C07_stale_lock (k : Lock.K) (h : Lock.Inv k) (p q : Nat) (hp : (k.procs p).pc = .inside) (hq : (k.procs q).pc = .start) :
    ((Lock.stepProc .fixed (Lock.stepProc .fixed (Lock.stepProc .fixed (Lock.stepProc .fixed k p .kill) q .step) q .step) q .step).procs q).pc = .inside :=
  Lock.C13_stale_lock_free k h p q hp hq


/-! ## the index stage in skel: whatever a killed run left at the names of an index -/

/-- size and content identity of what a name shows -/
def contentAt (fs : FS) (p : Path) : Option (Nat × Nat) := (fs.dataAt p).map fun d => (d.size, d.tag)

theorem linkOrCopy_contentAt (fs : FS) (src : Path) (ts : List Path) (q : Path) (hq : q ∈ ts) :
    contentAt (linkOrCopy fs src ts) q = contentAt fs src := by
  unfold contentAt; rw [linkOrCopy_dataAt fs src ts q hq]

theorem transferred_contentAt (fs : FS) (p : Path) (n t : Nat) (d : Option Int) :
    contentAt (utimeOpt (fs.rewrite p n t) p d) p = some (n, t) := by
  unfold contentAt; rw [utimeOpt_rewrite_dataAt]; rfl

/-- **C07 (index stage: the rerun's result does not depend on what a dead run left in skel).** Take *any* file-system state at
    the names of an index variant - nothing, a torso, a complete file without its date, a complete and dated by-hash file whose
    other names still show older content or are missing (every crash point of an earlier transfer of it, and anything else).
    S5 is the only assumption: if the file under the requested name passes for unmodified (size and upstream date as the server
    announces them), it has the content the server serves.  Then an accepting attempt - whether it transfers the body or takes
    the file for unmodified - ends with **every** name of the variant showing exactly the served content. -/
theorem C07_index_rerun_content (root : Path) (f : DFile) (v : Variant) (src : Path) (s s1 : DState) (err : Bool)
    (announced : Option Nat) (date : Option Int) (body tag : Nat) (abort : Bool)
    (hreq : s.request src = (.ok announced date body abort tag, s1))
    (hS5 : sizeTruthy announced = true → needUpdate s1.fs (root ++ src) announced date = false →
      contentAt s1.fs (root ++ src) = some (body, tag))
    (s' : DState) (hacc : attempt root f v src s err = .accept s') :
    ∀ a ∈ v.allPaths, contentAt s'.fs (root ++ a) = some (body, tag) := by
  intro p hp
  revert hacc
  -- both accepting branches link every name to the file under the requested name
  refine attempt_cases root f v src s err (P := fun r => r = .accept s' → contentAt s'.fs (root ++ p) = some (body, tag))
    ?_ ?_ ?_ ?_ ?_
  · intro _ _ _ _ _ h; cases h
  · intro _ _ _ _ _ h; cases h
  · intro _ _ _ _ _ _ _ _ _ _ h; cases h
  · intro a d b ab t s1' hreq' _ htru hnu h
    cases hreq.symm.trans hreq'
    cases h
    rw [linkOrCopy_contentAt _ _ _ _ (mem_map_root hp)]
    exact hS5 htru hnu
  · intro a d b ab t s1' hreq' _ _ _ _ h
    cases hreq.symm.trans hreq'
    cases h
    rw [linkOrCopy_contentAt _ _ _ _ (mem_map_root hp), transferred_contentAt]

/-- a torso (or a complete file whose date was not yet set) satisfies the S5 premise vacuously: it is never taken for unmodified -/
theorem C07_index_torso_refetched (fs : FS) (p : Path) (k t : Nat) (announced : Option Nat) (date : Option Int) :
    needUpdate (fs.rewrite p k t) p announced date = true :=
  C07_partial_not_unmodified _ p _ (utimeOpt_rewrite_dataAt fs p k t none) rfl announced date

/-- non-vacuity: a state in which the by-hash name is complete and dated while the canonical name shows other content meets the
    premise (the file under the requested name has the served content) -/
example : contentAt ((FS.empty.addFile [["by-hash"], ["h"]].flatten { size := 5, mtime := some 7, tag := 3 }).addFile ["Packages.xz"]
    { size := 4, mtime := some 1, tag := 2 }) ["by-hash", "h"] = some (5, 3) := by decide

/-! ### ... lifted over the retry loop, the aliases and the variants of one index file -/

/-- S5 for a whole run: whenever the file under a URL's name passes for unmodified with respect to an answer the server will
    still give for that URL, it has that answer's content -/
def S5On (U : Path → Prop) (root : Path) (s : DState) : Prop :=
  ∀ src announced date body abort tag, U src → Resp.ok announced date body abort tag ∈ s.orc src →
    sizeTruthy announced = true → needUpdate s.fs (root ++ src) announced date = false →
    contentAt s.fs (root ++ src) = some (body, tag)

/-- S5 at every URL -/
def S5 (root : Path) (s : DState) : Prop := S5On (fun _ => True) root s

theorem needUpdate_congr (a b : FS) (p : Path) (h : a.dataAt p = b.dataAt p) (sz : Option Nat) (d : Option Int) :
    needUpdate a p sz d = needUpdate b p sz d := by
  unfold needUpdate; rw [h]

theorem append_left_inj' (root a b : Path) (h : root ++ a = root ++ b) : a = b := List.append_cancel_left h

/-- S5 speaks of what names show and what the scripts still hold: it survives when the scripts only get shorter and every
    name it is asked about shows the same file as before or a file without an upstream date (a torso is never "unmodified") -/
theorem S5On.transport {U U' : Path → Prop} {root : Path} {s s' : DState} (h5 : S5On U root s)
    (horc : ∀ q x, x ∈ s'.orc q → x ∈ s.orc q)
    (hfs : ∀ src, U' src → (U src ∧ s'.fs.dataAt (root ++ src) = s.fs.dataAt (root ++ src)) ∨
      ∃ d, s'.fs.dataAt (root ++ src) = some d ∧ d.mtime = none) : S5On U' root s' := by
  intro src a d b ab t hU hm htru hnu
  rcases hfs src hU with ⟨hU, hd⟩ | ⟨fd, hd, hmt⟩
  · rw [needUpdate_congr _ _ _ hd] at hnu
    unfold contentAt
    rw [hd]
    exact h5 src a d b ab t hU (horc _ _ hm) htru hnu
  · rw [C07_partial_not_unmodified _ _ _ hd hmt] at hnu; cases hnu

/-- what the passes that do not accept maintain, relative to the state `s` the transfer of the file started from: a well-formed
    file system, S5 at `U`, scripts that only got shorter -/
def Kept (U : Path → Prop) (root : Path) (s s' : DState) : Prop :=
  s'.fs.WF ∧ S5On U root s' ∧ ∀ q x, x ∈ s'.orc q → x ∈ s.orc q

theorem Kept.request {U : Path → Prop} {root : Path} {s sk s1 : DState} {u : Path} {r : Resp} (hk : Kept U root s sk)
    (h : sk.request u = (r, s1)) : Kept U root s s1 := by
  have hfs : s1.fs = sk.fs := by have := request_fs sk u; rwa [h] at this
  have horc : ∀ q x, x ∈ s1.orc q → x ∈ sk.orc q := by have := (request_mem sk u).2; rwa [h] at this
  exact ⟨hfs ▸ hk.1, hk.2.1.transport horc (fun src hU => Or.inl ⟨hU, by rw [hfs]⟩), fun q x hx => hk.2.2 q x (horc q x hx)⟩

theorem Kept.torso {U : Path → Prop} {root : Path} {s sk : DState} (hk : Kept U root s sk) (src : Path) (n t : Nat) :
    Kept U root s { sk with fs := sk.fs.rewrite (root ++ src) n t } := by
  have hfr := frame_rewrite sk.fs (root ++ src) n t
  refine ⟨hfr.wf hk.1, hk.2.1.transport (fun _ _ h => h) (fun src' hU => ?_), hk.2.2⟩
  by_cases hq : root ++ src' = root ++ src
  · rw [hq]; exact Or.inr ⟨_, utimeOpt_rewrite_dataAt sk.fs (root ++ src) n t none, rfl⟩
  · exact Or.inl ⟨hU, hfr.dataAt hk.1 _ (by simpa using hq)⟩

/-- one pass through the loop body for a URL at which S5 is assumed -/
theorem attempt_content (U : Path → Prop) (root : Path) (f : DFile) (v : Variant) (src : Path) (hU : U src) (s sk : DState)
    (err : Bool) (hk : Kept U root s sk) : (attempt root f v src sk err).Post (Kept U root s) fun s' =>
      ∃ a d b ab t, Resp.ok a d b ab t ∈ s.orc src ∧ ∀ p ∈ v.allPaths, contentAt s'.fs (root ++ p) = some (b, t) := by
  have hmem : ∀ {a d b ab t s1}, sk.request src = (.ok a d b ab t, s1) → Resp.ok a d b ab t ∈ sk.orc src ∧ s1.fs = sk.fs := by
    intro a d b ab t s1 h
    have h1 := (request_mem sk src).1
    have h2 := request_fs sk src
    rw [h] at h1 h2
    exact ⟨h1.resolve_left (fun h => by cases h), h2⟩
  refine attempt_cases root f v src sk err ?_ ?_ ?_ ?_ ?_
  · exact fun _ _ _ h _ => hk.request h
  · exact fun _ _ h _ _ => hk.request h
  · exact fun _ _ _ _ _ s1 h _ _ _ => (hk.request h).torso src _ _
  · intro a d b ab t s1 hreq _ htru hnu
    obtain ⟨hm, hfs⟩ := hmem hreq
    refine ⟨a, d, b, ab, t, hk.2.2 _ _ hm, fun p hp => ?_⟩
    rw [linkOrCopy_contentAt _ _ _ _ (mem_map_root hp), hfs]
    exact hk.2.1 src a d b ab t hU hm htru (hfs ▸ hnu)
  · intro a d b ab t s1 hreq _ _ _ _
    exact ⟨a, d, b, ab, t, hk.2.2 _ _ (hmem hreq).1, fun p hp => by
      rw [linkOrCopy_contentAt _ _ _ _ (mem_map_root hp), transferred_contentAt]⟩

/-- `C07_index_file_content` with S5 demanded only at the URLs `U` of the file itself (what the queue-level theorem needs: the
    names of the *other* files of the queue may be in any state) -/
theorem C07_index_file_content_on (U : Path → Prop) (root : Path) (f : DFile) :
    ∀ (vs : List Variant) (s : DState) (err : Bool), (∀ v ∈ vs, ∀ p ∈ v.allPaths, U p) → s.fs.WF → S5On U root s →
      match tryVariants root f vs s err with
      | (.accepted, s', _) => ∃ v ∈ vs, ∃ src ∈ v.allPaths, ∃ a d b ab t, Resp.ok a d b ab t ∈ s.orc src ∧
          ∀ p ∈ v.allPaths, contentAt s'.fs (root ++ p) = some (b, t)
      | (.exhausted, s', _) => s'.fs.WF ∧ S5On U root s' ∧ ∀ q x, x ∈ s'.orc q → x ∈ s.orc q := by
  intro vs s err hU hwf h5
  have h := tryVariants_induct (I := Kept U root s) vs
    (fun v hv src hs sk err => attempt_content U root f v src (hU v hv src hs) s sk err) s err ⟨hwf, h5, fun _ _ h => h⟩
  generalize tryVariants root f vs s err = r at h ⊢
  obtain ⟨_ | _, s', e⟩ := r <;> exact h

/-- **C07 (index stage, a whole index file).** Whatever a dead run left in skel (S5 being the only assumption), if the transfer of
    an index file is accepted - after any number of failed tries, on whichever of its names and compression variants - every name of
    the accepted variant shows exactly the content of an answer the server gave for the accepted URL in this run. -/
theorem C07_index_file_content (root : Path) (f : DFile) :
    ∀ (vs : List Variant) (s : DState) (err : Bool), s.fs.WF → S5 root s →
      match tryVariants root f vs s err with
      | (.accepted, s', _) => ∃ v ∈ vs, ∃ src ∈ v.allPaths, ∃ a d b ab t, Resp.ok a d b ab t ∈ s.orc src ∧
          ∀ p ∈ v.allPaths, contentAt s'.fs (root ++ p) = some (b, t)
      | (.exhausted, s', _) => s'.fs.WF ∧ S5 root s' ∧ ∀ q x, x ∈ s'.orc q → x ∈ s.orc q :=
  fun vs s err hwf h5 => C07_index_file_content_on (fun _ => True) root f vs s err (fun _ _ _ _ => trivial) hwf h5

/-! non-vacuity: the crash state the tenth-round seed agent-C07-10 needs - the by-hash name complete and dated, the canonical name
    still on the previous content - satisfies `WF` and `S5` for a server that announces exactly that file, and the model's transfer
    ends with both names on the served content (evaluated by the kernel) -/
namespace IndexExample
def bh : Path := ["d", "by-hash", "SHA256", "h"]
def canon : Path := ["d", "Packages.xz"]
def fs0 : FS := (FS.empty.addFile bh { size := 5, mtime := some 7, tag := 3 }).addFile canon { size := 4, mtime := some 1, tag := 2 }
def st : DState :=
  ⟨fs0, default, fun q => if q = bh then [.ok (some 5) (some 7) 5 false 3] else [], []⟩
def f : DFile := DFile.fromHashedPath canon 5 .sha256 "h" true

example : (tryVariants [] f f.iterVariants st false).1 = .accepted ∧
    contentAt (tryVariants [] f f.iterVariants st false).2.1.fs canon = some (5, 3) ∧
    contentAt (tryVariants [] f f.iterVariants st false).2.1.fs bh = some (5, 3) ∧
    contentAt st.fs canon = some (4, 2) := by decide +kernel

example : st.fs.WF := by
  intro p i h
  simp only [st, fs0, FS.addFile, FS.empty] at h ⊢
  split at h
  · cases h; decide
  · split at h
    · cases h; decide
    · cases h

example : S5 [] st := by
  intro src a d b ab t _ hm _ _
  simp only [st] at hm
  split at hm
  · rename_i hq
    simp only [List.mem_singleton] at hm
    cases hm
    subst hq
    decide
  · cases hm
end IndexExample

/-! ### ... and over the queue of a whole index stage -/

theorem attempt_orc_sub (root : Path) (f : DFile) (v : Variant) (src : Path) (s : DState) (err : Bool) :
    ∀ q x, x ∈ (attempt root f v src s err).state.orc q → x ∈ s.orc q := by
  intro q x hx
  rw [(attempt_reqs root f v src s err).2] at hx
  exact (request_mem s src).2 q x hx

/-- a transfer only ever shortens the scripts of the server -/
theorem downloadOne_orc_sub (root : Path) (f : DFile) (s : DState) :
    ∀ q x, x ∈ (downloadOne root f s).orc q → x ∈ s.orc q :=
  downloadOne_lift (R := fun s s' => ∀ q x, x ∈ s'.orc q → x ∈ s.orc q) (fun _ _ _ h => h)
    (fun _ _ _ h1 h2 q x h => h1 q x (h2 q x h)) (fun _ _ _ _ h => h) f
    (fun v _ src _ s err => attempt_orc_sub root f v src s err) s

theorem queue_orc_sub (root : Path) (l : List DFile) (s : DState) :
    ∀ q x, x ∈ (l.foldl (fun acc f => downloadOne root f acc) s).orc q → x ∈ s.orc q :=
  foldl_invariant (P := fun s' => ∀ q x, x ∈ s'.orc q → x ∈ s.orc q)
    (fun f _ s' h q x hx => h q x (downloadOne_orc_sub root f s' q x hx)) fun _ _ h => h

/-- the transfers of other queue entries - whatever their outcome - leave the names of `f` as they were and only shorten the
    scripts -/
theorem stage_others (root : Path) (f : DFile) (l : List DFile) :
    ∀ (s : DState), s.fs.WF → (∀ g ∈ l, ∀ p ∈ f.allPaths, p ∉ g.allPaths) →
      (l.foldl (fun acc g => downloadOne root g acc) s).fs.WF ∧
      (∀ p ∈ f.allPaths, (l.foldl (fun acc g => downloadOne root g acc) s).fs.dataAt (root ++ p) = s.fs.dataAt (root ++ p)) ∧
      ∀ q x, x ∈ (l.foldl (fun acc g => downloadOne root g acc) s).orc q → x ∈ s.orc q := by
  intro s hwf hd
  have hfr := queue_frame root l s
  refine ⟨hfr.wf hwf, fun p hp => hfr.dataAt hwf _ fun hm => ?_, queue_orc_sub root l s⟩
  obtain ⟨g, hg, hm⟩ := List.mem_flatMap.mp hm
  exact not_mem_targets (hd g hg p hp) hm

/-- **C07 (index stage, the whole queue).** The index stage of a rerun starts from *any* state a dead run left in skel (S5 being
    the only assumption, and only about the initial state) and processes a queue in which the names of the index file `f` belong to
    no other entry (the other entries may overlap each other, fail, or be accepted). If the transfer of `f` is accepted, then at
    the **end of the stage** every name of the accepted variant shows exactly the content of an answer that the server's scripts
    held for one of that variant's URLs when the stage began. (`download root q s` is this fold over `q.reverse`.) -/
theorem C07_index_stage_content (root : Path) (pre post : List DFile) (f : DFile) (s : DState) (hwf : s.fs.WF) (h5 : S5 root s)
    (hidx : f.checkSize = false)
    (hpre : ∀ g ∈ pre, ∀ p ∈ f.allPaths, p ∉ g.allPaths) (hpost : ∀ g ∈ post, ∀ p ∈ f.allPaths, p ∉ g.allPaths) :
    match tryVariants root f f.iterVariants (pre.foldl (fun acc g => downloadOne root g acc) s) false with
    | (.accepted, _, _) => ∃ v ∈ f.iterVariants, ∃ src ∈ v.allPaths, ∃ a d b ab t, Resp.ok a d b ab t ∈ s.orc src ∧
        ∀ p ∈ v.allPaths,
          contentAt ((pre ++ f :: post).foldl (fun acc g => downloadOne root g acc) s).fs (root ++ p) = some (b, t)
    | (.exhausted, _, _) => True := by
  obtain ⟨wf1, hdat1, horc1⟩ := stage_others root f pre s hwf hpre
  rw [List.foldl_append, List.foldl_cons]
  generalize pre.foldl (fun acc g => downloadOne root g acc) s = sf at wf1 hdat1 horc1 ⊢
  have hfile := C07_index_file_content_on (· ∈ f.allPaths) root f f.iterVariants sf false
    (fun v hv p hp => allPaths_subset (mem_iterVariants hv) hp) wf1
    (S5On.transport h5 horc1 fun src hU => Or.inl ⟨trivial, hdat1 src hU⟩)
  -- at the end of the stage the names of `f` show what they showed when the loops of `f` ended
  have hend : ∀ p ∈ f.allPaths, (post.foldl (fun acc g => downloadOne root g acc) (downloadOne root f sf)).fs.dataAt (root ++ p)
      = (tryVariants root f f.iterVariants sf false).2.1.fs.dataAt (root ++ p) := by
    intro p hp
    rw [(stage_others root f post _ ((downloadOne_frame root f sf).wf wf1) hpost).2.1 p hp]
    have hone : downloadOne root f sf = downloadFile root f sf := by unfold downloadOne; rw [hidx]; rfl
    obtain ⟨bk, h⟩ := downloadFile_eq root f sf
    rw [hone, h]
  generalize tryVariants root f f.iterVariants sf false = r at hfile hend ⊢
  obtain ⟨res, s', e'⟩ := r
  cases res with
  | exhausted => trivial
  | accepted =>
    obtain ⟨v, hv, src, hs, a, d, b, ab, t, hm, hc⟩ := hfile
    refine ⟨v, hv, src, hs, a, d, b, ab, t, horc1 _ _ hm, fun p hp => ?_⟩
    unfold contentAt
    rw [hend p (allPaths_subset (mem_iterVariants hv) hp)]
    exact hc p hp

/-! non-vacuity: the crash state of `IndexExample` inside a queue of two index files - the other one (no answer upstream: given
    up as missing) is transferred first; `f` is accepted and both of its names end the stage on the served content -/
namespace StageExample
open IndexExample
def g : DFile := DFile.fromHashedPath ["d", "Sources.xz"] 9 .sha256 "k" true

example : (tryVariants [] f f.iterVariants ([g].foldl (fun acc x => downloadOne [] x acc) st) false).1 = .accepted ∧
    contentAt (([g] ++ f :: []).foldl (fun acc x => downloadOne [] x acc) st).fs canon = some (5, 3) ∧
    contentAt (([g] ++ f :: []).foldl (fun acc x => downloadOne [] x acc) st).fs bh = some (5, 3) ∧
    f.checkSize = false ∧ (∀ p ∈ f.allPaths, p ∉ g.allPaths) := by decide +kernel
end StageExample

/-! ## the whole run (L2): every crash point, then a good run -/
namespace Mirror

/-- **C07 (what a killed run leaves behind is harmless).** At every crash point the enumeration invariant and S1 (a file at a
    needed path consists of bytes of the body served for that path) still hold. -/
theorem C07_crash_invariants (t : Tree) (need : Need) (hw : WF t) (hok : NeedOK need) (hk : K need t) (k : Nat) :
    WF (crash t need k) ∧ K need (crash t need k) :=
  ⟨WF_exec _ _ hw, crash_keeps_K t need need hk (fun n hn m hm hp => by rw [eq_of_key_eq hok.distinct hm hn hp]) k⟩

/-- **C07 (the next good run converges).** Kill the process before any operation `k` of a run (`k` beyond the end: not at all);
    the next run that ends without error leaves — outside skip-clean paths — exactly the tree the uninterrupted run leaves:
    same live metadata, and at every path the same file (size and content) or no file. -/
theorem C07_crash_rerun_converges (t : Tree) (need : Need) (hw : WF t) (hok : NeedOK need) (hk : K need t) (k : Nat) :
    (run (crash t need k) need).dists = (run t need).dists ∧
    ∀ q, need.keepExtra q = false → (run (crash t need k) need).pool q = (run t need).pool q := by
  obtain ⟨hwc, hkc⟩ := C07_crash_invariants t need hw hok hk k
  exact run_agree _ t need hwc hw hok hkc hk

/-- **C07 (no truncated file accepted as complete).** While a body is being written — created, `j` of its chunks appended,
    at least one non-empty chunk still to come — the file is shorter than declared, so the size short-cut of the next run
    does not accept it: it is fetched again. -/
theorem C07_torso_not_accepted (t : Tree) (n : PoolNeed) (hs : n.chunks.sum = n.size) (j : Nat)
    (hrest : 0 < (n.chunks.drop j).sum) :
    present (exec ((writeOps n).take (j + 1)) t) n = false := by
  have htake : (writeOps n).take (j + 1) = .create n.path n.tag :: (n.chunks.take j).map (.append n.path) := by
    simp [writeOps, List.take_succ_cons, List.map_take]
  rw [htake, exec_cons]
  have h1 : (step t (.create n.path n.tag)).pool n.path = some ⟨0, n.tag⟩ := by simp [step]
  unfold present
  rw [appends_pool (n.chunks.take j) n.path _ ⟨0, n.tag⟩ h1]
  have hsplit : (n.chunks.take j).sum + (n.chunks.drop j).sum = n.size := by
    rw [← hs, ← List.sum_append, List.take_append_drop]
  simp only [Nat.zero_add, beq_eq_false_iff_ne, ne_eq]
  omega

/-- **C07 (rerun against a newer version).** If the run that was killed worked for needs `need` and the next one works for
    `need'` (a newer upstream state), and the two agree on the body behind every path they share (pool paths are immutable),
    the crashed tree still satisfies the hypotheses of `C08_run_content` for `need'`: the rerun produces the tree a
    first-ever mirror of the newer version has. -/
theorem C07_crash_then_newer (t : Tree) (need need' : Need) (hw : WF t) (hk' : K need' t)
    (hagree : ∀ n ∈ need.pool, ∀ m ∈ need'.pool, m.path = n.path → m.tag = n.tag) (k : Nat) :
    WF (crash t need k) ∧ K need' (crash t need k) :=
  ⟨WF_exec _ _ hw, crash_keeps_K t need need' hk' hagree k⟩

end Mirror

/-! ### non-vacuity of the whole-run statements: a concrete tree, needs, and every crash point of its run -/
private def needY : Mirror.Need :=
  { mfiles := [(["dists", "s", "Release"], ⟨10, 1⟩)],
    pool := [⟨["pool", "a.deb"], 5, 11, [2, 3]⟩, ⟨["pool", "b.deb"], 4, 12, [4]⟩],
    keepExtra := fun _ => false }
private def treeY : Mirror.Tree :=
  { dists := fun _ => none,
    pool := fun p => if p = ["pool", "old.deb"] then some ⟨9, 13⟩ else none,
    dom := [["pool", "old.deb"]] }
example : (Mirror.runOps treeY needY).length = 7 := by decide
example : ∀ k ∈ List.range 9, ∀ q ∈ [["pool", "a.deb"], ["pool", "b.deb"], ["pool", "old.deb"]],
    (Mirror.run (Mirror.crash treeY needY k) needY).pool q = (Mirror.run treeY needY).pool q := by decide
example : (Mirror.crash treeY needY 2).pool ["pool", "a.deb"] = some ⟨2, 11⟩ ∧ Mirror.present (Mirror.crash treeY needY 2) ⟨["pool", "a.deb"], 5, 11, [2, 3]⟩ = false := by decide

end AptMirror
