import AptMirror.Model.Index
import AptMirror.Lemmas.Index
import AptMirror.Lemmas.Sources
import AptMirror.Lemmas.Publish
/-!
# C09 — Packages/Sources parsing and package filters match the Debian index format

> For every well-formed Packages or Sources index (any field order, multi-line fields, optional fields, several blank
> separator lines, missing final newline, …), the set of (path, size) pool files the tool derives equals the set the
> control-file format defines: one per Packages stanza having Package, Filename and a positive Size, and one per file line of
> each Sources stanza placed under its Directory. The include/exclude source-name and binary-name filters select exactly
> the documented subset (a binary package is matched by its Source field, defaulting to its own name), and ignore_errors
> marks exactly the files at or below the listed paths.

Model: `Model/Index.lean` — the two line machines of `_do_parse_index`, literally.  Proved here: the building blocks that make
the machines agree with the stanza semantics, and for Packages indices the whole-index refinement `C09_packages_refines`
(line machine = stanza-level specification, for every stanza sequence, field order, extra fields, multi-line fields, blank
separators and missing final newline) — exact field-name recognition by the `startswith(b"<Name>:")` tests (so fields whose
names are prefixes or extensions of the interesting ones are inert), value extraction from a rendered field line, the effect
of a blank line (flush of exactly the (path, size) of the stanza, then reset), the synthetic final blank line, filter and
ignore_errors semantics.  `C09_sources_refines` is the same refinement for Sources indices: the stanza is an abstract syntax
tree (`Package`, `Directory`, the four checksum sections with their ` hash size name` entries, arbitrary other fields with
continuation lines, including names that extend the interesting ones and any `Checksums-<other>`), the machine's section
flag is shown to be on exactly inside the four sections, and every entry lands under the stanza's Directory.
`C09_splitLines_render` ties the lines to the bytes: reading a text line by line (`readline` until empty) gives back exactly the
lines it was rendered from, with or without a final newline.  Decompression and mmap are library code and are exercised by
the harness (three-way, all compressions, indices above the mmap threshold), not modelled.
-/
namespace AptMirror
namespace Index
open Str

private def noFilterR : Filter := { includeSource := [], excludeSource := [], includeBinary := [], excludeBinary := [] }

/-- **C09 (field names are recognised exactly).** For colon-free names, a line `name: …` passes the test
    `startswith(key + ":")` iff `name = key`: longer (`Package-Type`, `Installed-Size`, `Filename-Extra`) and shorter names
    never match. -/
theorem C09_prefix_exact (key name rest : S) (hk : ':' ∉ key) (hn : ':' ∉ name) :
    startsWith (name ++ ':' :: rest) (key ++ [':']) = true ↔ name = key := by
  rw [startsWith_colon key name rest hk hn, decide_eq_true_iff]

/-- continuation lines (leading blank) and blank lines never look like a field of interest -/
theorem C09_continuation_inert (key rest : S) (c : Char) (hk : key.head? ≠ some c) (hne : key ≠ []) :
    startsWith (c :: rest) (key ++ [':']) = false := by
  exact startsWith_head c rest key [':'] hk hne

/-- **C09 (filters).** `package_allowed` is exactly the documented four-set predicate. -/
theorem C09_filter_spec (f : Filter) (src pkg : S) (hp : pkg ≠ []) :
    f.allowed src (some pkg) = true ↔
      (f.includeSource = [] ∨ src ∈ f.includeSource) ∧ (src ∉ f.excludeSource) ∧
      (f.includeBinary = [] ∨ pkg ∈ f.includeBinary) ∧ (pkg ∉ f.excludeBinary) := by
  -- the two tests of the code: an empty include list admits everything, an empty exclude list excludes nothing
  have inc : ∀ (l : List S) (x : S), (!l.isEmpty && !l.contains x) = !decide (l = [] ∨ x ∈ l) := by
    intro l x; cases l <;> simp
  have exc : ∀ (l : List S) (x : S), (!l.isEmpty && l.contains x) = decide (x ∈ l) := by
    intro l x; cases l <;> simp
  have hpe : pkg.isEmpty = false := by cases pkg with | nil => exact absurd rfl hp | cons _ _ => rfl
  simp only [Filter.allowed, inc, exc, hpe]
  simp

/-- **C09 (ignore_errors is exact).** A file is marked iff one of the listed paths is a component-wise prefix of its path
    (the path itself or a directory above it) — `pool/mai` does not mark `pool/main/...`. -/
theorem C09_ignore_exact (ignored : List Path) (p : Path) :
    shouldIgnore ignored p = true ↔ ∃ i ∈ ignored, ∃ rest, p = i ++ rest := by
  simp only [shouldIgnore, List.any_eq_true, isPrefix_iff_prefix, List.IsPrefix]
  exact exists_congr fun i => and_congr_right fun _ => exists_congr fun r => eq_comm

/-- **C09 (a blank line flushes exactly the stanza's file and resets).** With Package, an accepted Filename and a
    non-zero Size collected, and the filters allowing the package (matched by Source, defaulting to its own name), a blank
    line adds exactly `(Filename, Size)` to the pool and clears the per-stanza state. -/
theorem C09_blank_flushes (flt : Filter) (ign : List Path) (s : PState) (pool : List PoolFile) (pkg : S) (fp : Path)
    (h1 : s.package = some pkg) (h2 : s.filePath = some fp) (hp : pkg ≠ []) (hs : s.size ≠ 0)
    (hf : flt.allowed (s.srcName pkg) (some pkg) = true) :
    packagesLine flt ign (s, pool) ['\n'] =
      .ok ({}, putPool pool { path := fp, size := s.size, ignoreErrors := shouldIgnore ign fp }) := by
  have hpe : pkg.isEmpty = false := by cases pkg with | nil => exact absurd rfl hp | cons _ _ => rfl
  simp [packagesLine_blank, flush, h1, h2, hpe, hs, hf]

/-- a stanza lacking Package, Filename or a non-zero Size yields nothing -/
theorem C09_blank_skips (flt : Filter) (ign : List Path) (s : PState) (pool : List PoolFile)
    (h : s.package = none ∨ s.filePath = none ∨ s.size = 0) :
    packagesLine flt ign (s, pool) ['\n'] = .ok ({}, pool) := by
  rw [packagesLine_blank, flush]
  rcases h with h | h | h
  · simp [h]
  · cases s.package <;> simp [h]
  · cases s.package <;> cases s.filePath <;> simp [h]

/-- **C09 (missing final newline / no trailing blank line).** The machine always appends one synthetic blank line, so the
    last stanza is flushed whether or not the file ends with a blank line. -/
theorem C09_final_flush (flt : Filter) (ign : List Path) (lines : List S) (pool : List PoolFile) :
    packagesMachine flt ign lines pool = (do
      let r ← lines.foldlM (packagesLine flt ign) ({}, pool)
      let r' ← packagesLine flt ign r ['\n']
      pure r'.2) := by
  unfold packagesMachine
  rw [List.foldlM_append]
  simp [List.foldlM]

/-- **C09 (Packages: the line machine computes the stanza-level meaning of the index).** For every sequence of stanzas of
    well-formed fields — any field order, any fields besides the four that are read (including names that are prefixes or
    extensions of them), multi-line fields, one or more blank lines between stanzas, any number (also none) after the last
    one, and a last line with or without its newline — `PackagesParser._do_parse_index` derives exactly what reading each
    stanza on its own yields: at most one `(Filename, Size)` per stanza, under the filter and ignore rules (`flush`).
    A `Size` that is no integer is the same error on both sides. -/
theorem C09_packages_refines (flt : Filter) (ign : List Path) (sts : List Stanza) (last : Stanza)
    (hb : ∀ st ∈ sts, 1 ≤ st.blanks) (hok : ∀ st ∈ sts ++ [last], ∀ f ∈ st.fields, f.OK) (pool : List PoolFile) :
    packagesMachine flt ign ((sts ++ [last]).flatMap Stanza.lines) pool = specIndex flt ign (sts ++ [last]) pool :=
  machine_refines (abs := id) (flush := flush flt ign) Stanza.fields Stanza.blanks (packagesLine_blank flt ign)
    (flush_empty flt ign) (packages_field flt ign) sts last hb hok pool

/-- **C09 (the stanza's package name is its `Package` field).** Whatever else the stanza contains and in whatever order, the
    name the filters are applied to and the stanza is kept under is the value of its `Package` field. -/
theorem C09_package_is_field (fs : List Field) (s' : PState) (h : specFields {} fs = .ok s') :
    s'.package = (lastField kPackage fs).map (fun f => f.rest.drop 1) := by
  have := specFields_package fs {} s' h
  rw [this]
  cases lastField kPackage fs <;> rfl

/-- an empty index derives nothing -/
theorem C09_packages_empty (flt : Filter) (ign : List Path) (pool : List PoolFile) :
    packagesMachine flt ign [] pool = .ok pool := by
  simp [packagesMachine, List.foldlM, packagesLine_blank, flush_empty, bind, Except.bind, pure, Except.pure]


/-! ## Sources -/

/-- **C09 (Sources: the line machine computes the stanza-level meaning of the index).** For every sequence of Sources stanzas —
    `Package`, `Directory`, any of the sections `Files` / `Checksums-Sha1|Sha256|Sha512` with their file entries, and any other
    fields (multi-line, names that are prefixes or extensions of the interesting ones, `Checksums-<anything else>`) in any
    order and any number, one or more blank lines between stanzas, any number after the last, last line with or without its
    newline — `SourcesParser._do_parse_index` derives exactly: for each stanza that has a Package the source-name filters
    allow and a (safe) Directory, one pool file per distinct (safe) file name of its sections, placed under the Directory, with
    the size of its first entry.  A size that is no integer is the same error on both sides. -/
theorem C09_sources_refines (flt : Filter) (ign : List Path) (sts : List SrcStanza) (last : SrcStanza)
    (hb : ∀ st ∈ sts, 1 ≤ st.blanks) (hok : ∀ st ∈ sts ++ [last], ∀ f ∈ st.fields, f.OK) (pool : List PoolFile) :
    sourcesMachine flt ign ((sts ++ [last]).flatMap SrcStanza.lines) pool = specSources flt ign (sts ++ [last]) pool := by
  exact machine_refines (abs := proj) (flush := srcFlush flt ign) SrcStanza.fields SrcStanza.blanks (sourcesLine_blank flt ign)
    (srcFlush_empty flt ign) (sources_field flt ign) sts last hb hok pool

/-- **C09 (a Sources stanza places each file under its Directory).** What the end of a stanza adds is, for every collected
    file `(name, size)`, the pool file `Directory/name` with that size and the ignore mark of that full path — and nothing when
    the stanza lacks a Package or a Directory or the source-name filter rejects it. -/
theorem C09_sources_flush (flt : Filter) (ign : List Path) (a : SrcAcc) (pool : List PoolFile) :
    srcFlush flt ign a pool =
      match a.package, a.directory with
      | some pkg, some dir =>
        if pkg ≠ [] ∧ flt.allowed pkg none = true then
          a.files.foldl (fun pl f =>
            let full := if isAbsPath f.1 then f.1 else dir ++ f.1
            putPool pl { path := full, size := f.2, ignoreErrors := shouldIgnore ign full }) pool
        else pool
      | _, _ => pool := by
  unfold srcFlush
  cases a.package with
  | none => rfl
  | some pkg =>
    cases a.directory with
    | none => rfl
    | some dir =>
      cases pkg with
      | nil => simp
      | cons c cs => cases h : flt.allowed (c :: cs) none <;> simp [h]

/-- a line as `readline` returns it: a newline-free body and its newline -/
def IsLine (l : S) : Prop := ∃ b, l = b ++ ['\n'] ∧ '\n' ∉ b

theorem splitLines_go_body (b r cur : S) (acc : List S) (hb : '\n' ∉ b) :
    splitLines.go cur acc (b ++ r) = splitLines.go (b.reverse ++ cur) acc r := by
  induction b generalizing cur with
  | nil => rfl
  | cons c cs ih =>
    have hc : c ≠ '\n' := fun e => hb (by rw [e]; exact List.mem_cons_self)
    simp only [List.cons_append, splitLines.go, hc, if_false]
    rw [ih (c :: cur) (fun hm => hb (List.mem_cons_of_mem _ hm))]
    simp

theorem splitLines_go_lines (ls : List S) (last : S) (acc : List S) (h : ∀ l ∈ ls, IsLine l) (hl : '\n' ∉ last) :
    splitLines.go [] acc (ls.flatten ++ last) = acc.reverse ++ ls ++ (if last = [] then [] else [last]) := by
  induction ls generalizing acc with
  | nil =>
    have := splitLines_go_body last [] [] acc hl
    simp only [List.append_nil] at this
    simp only [List.flatten_nil, List.nil_append, List.append_nil, this, splitLines.go]
    cases last with
    | nil => simp
    | cons c cs => simp
  | cons l ls ih =>
    obtain ⟨b, rfl, hb⟩ := h l List.mem_cons_self
    have e : ((b ++ ['\n']) :: ls).flatten ++ last = b ++ ('\n' :: (ls.flatten ++ last)) := by simp
    rw [e, splitLines_go_body b _ [] acc hb]
    simp only [List.append_nil, splitLines.go, if_true]
    rw [ih _ (fun x hx => h x (List.mem_cons_of_mem _ hx))]
    simp

/-- **C09 (lines ↔ bytes).** Reading the concatenation of lines with `readline` until it returns nothing gives back
    exactly those lines; a last line without its newline is returned as it is, and no empty line is invented at the end. -/
theorem C09_splitLines_render (ls : List S) (last : S) (h : ∀ l ∈ ls, IsLine l) (hl : '\n' ∉ last) :
    splitLines (ls.flatten ++ last) = ls ++ (if last = [] then [] else [last]) := by
  have := splitLines_go_lines ls last [] h hl
  simp only [List.reverse_nil, List.nil_append] at this
  unfold splitLines
  split
  · rename_i heq
    rw [heq] at this
    simpa [splitLines.go] using this.symm
  · exact this

/-! ### non-vacuity of the Sources refinement -/
private def sPkg : SrcField := .package "hello".toList ['\n']
private def sDir : SrcField := .directory "pool/main/h/hello".toList ['\n']
private def sFiles : SrcField := .sect .files [⟨"aa".toList, "10".toList, "hello_1.dsc".toList, ['\n']⟩, ⟨"bb".toList, "20".toList, "hello_1.tar.gz".toList, ['\n']⟩]
private def sSha : SrcField := .sect .sha256 [⟨"cc".toList, "10".toList, "hello_1.dsc".toList, ['\n']⟩, ⟨"dd".toList, "7".toList, "../x".toList, []⟩]
private def sOther : SrcField := .other { name := "Checksums-Md5x".toList, rest := [], cont := [("aa 1 qqq".toList, ['\n'])] }
-- `String.toList_ofList` first: the kernel is slow to decode `"…".toList` of a literal (superlinear in its length);
-- the rewrite puts the character list in its place without evaluating anything.
example : sPkg.OK := ⟨⟨by decide, by decide⟩, Or.inl rfl⟩
example : sOther.OK := by
  unfold sOther; repeat rw [String.toList_ofList]
  exact ⟨⟨by decide, _, _, rfl, by decide⟩, by decide, by decide, by decide, by decide⟩
example : ((⟨[sOther, sFiles, sPkg, sDir, sSha], 0⟩ : SrcStanza).lines).flatten =
    ("Checksums-Md5x:\n aa 1 qqq\nFiles:\n aa 10 hello_1.dsc\n bb 20 hello_1.tar.gz\nPackage: hello\nDirectory: pool/main/h/hello\n" ++
     "Checksums-Sha256:\n cc 10 hello_1.dsc\n dd 7 ../x").toList := by
  unfold sOther sFiles sPkg sDir sSha; rw [String.toList_append]; repeat rw [String.toList_ofList]
  decide +kernel
example : (specSources noFilterR [] [⟨[sOther, sFiles, sPkg, sDir, sSha], 0⟩] []).toOption =
    some [{ path := ["pool", "main", "h", "hello", "hello_1.dsc"], size := 10, ignoreErrors := false },
          { path := ["pool", "main", "h", "hello", "hello_1.tar.gz"], size := 20, ignoreErrors := false }] := by
  unfold sOther sFiles sPkg sDir sSha; repeat rw [String.toList_ofList]
  decide +kernel
example : splitLines "a\n\nb".toList = ["a\n".toList, "\n".toList, "b".toList] := by decide

/-- **C09 (several indices read by one parser).** `PackagesParser` keeps its per-stanza state in the parser object and does not
    reset it when it opens the next index file; because every file ends with the synthetic blank line, nothing of one index
    reaches the next: reading the files one after the other derives exactly what the stanzas of all files mean, each on its own. -/
theorem C09_packages_several_indices (flt : Filter) (ign : List Path) (files : List (List Stanza × Stanza))
    (hb : ∀ f ∈ files, ∀ st ∈ f.1, 1 ≤ st.blanks) (hok : ∀ f ∈ files, ∀ st ∈ f.1 ++ [f.2], ∀ fld ∈ st.fields, fld.OK)
    (pool : List PoolFile) :
    files.foldlM (fun pl f => packagesMachine flt ign ((f.1 ++ [f.2]).flatMap Stanza.lines) pl) pool =
      specIndex flt ign (files.flatMap (fun f => f.1 ++ [f.2])) pool := by
  induction files generalizing pool with
  | nil => rfl
  | cons f fs ih =>
    simp only [List.foldlM_cons, List.flatMap_cons]
    rw [C09_packages_refines flt ign f.1 f.2 (hb f List.mem_cons_self) (hok f List.mem_cons_self) pool]
    have happ : specIndex flt ign ((f.1 ++ [f.2]) ++ fs.flatMap (fun f => f.1 ++ [f.2])) pool =
        (specIndex flt ign (f.1 ++ [f.2]) pool) >>= (fun p => specIndex flt ign (fs.flatMap (fun f => f.1 ++ [f.2])) p) := by
      simp only [specIndex, List.foldlM_append]
    rw [happ]
    cases specIndex flt ign (f.1 ++ [f.2]) pool with
    | error e => rfl
    | ok p =>
      simp only [bind, Except.bind]
      exact ih (fun g hg => hb g (List.mem_cons_of_mem _ hg)) (fun g hg => hok g (List.mem_cons_of_mem _ hg)) p

/-! ### non-vacuity of the refinement: the fields of the example below are well-formed and render to its lines -/
private def fPkg : Field := { name := kPackage, rest := " a".toList }
private def fDecoy : Field := { name := "Package-Type".toList, rest := " udeb".toList }
private def fFile : Field := { name := kFilename, rest := " pool/a_1.deb".toList }
private def fDesc : Field := { name := "Description".toList, rest := " x".toList, cont := [("more".toList, ['\n']), (".".toList, ['\n'])] }
private def fSize : Field := { name := kSize, rest := " 42".toList, eol := [] }
example : fPkg.OK :=
  ⟨⟨by decide, 'P', "ackage".toList, by decide, by decide⟩, Or.inl rfl,
   fun _ => ⟨"a".toList, rfl, ⟨'a', [], rfl, by decide⟩, ⟨[], 'a', rfl, by decide⟩⟩⟩
example : fSize.OK :=
  ⟨⟨by decide, 'S', "ize".toList, by decide, by decide⟩, Or.inr rfl,
   fun _ => ⟨"42".toList, rfl, ⟨'4', ['2'], rfl, by decide⟩, ⟨['4'], '2', rfl, by decide⟩⟩⟩
example : ((⟨[fPkg, fDecoy, fFile, fDesc, fSize], 0⟩ : Stanza).lines) =
    splitLines "Package: a\nPackage-Type: udeb\nFilename: pool/a_1.deb\nDescription: x\n more\n .\nSize: 42".toList := by
  unfold fPkg fDecoy fFile fDesc fSize kPackage kFilename kSize; repeat rw [String.toList_ofList]
  decide +kernel
example : (specIndex noFilterR [] [⟨[fPkg, fDecoy, fFile, fDesc, fSize], 0⟩] []).toOption =
    some [{ path := ["pool", "a_1.deb"], size := 42, ignoreErrors := false }] := by
  unfold fPkg fDecoy fFile fDesc fSize kPackage kFilename kSize; repeat rw [String.toList_ofList]
  decide +kernel

/-! ### non-vacuity: a concrete index with a decoy field, a multi-line field, two separators and no final newline -/
private def exText : S :=
  ("Package: a\nPackage-Type: udeb\nInstalled-Size: 9\nFilename: pool/a_1.deb\nDescription: x\n more\n .\nSize: 42\nSHA256: ab\n\n\n" ++
   "Size: 7\nPackage: b\nSource: s (1.0)\nFilename: pool/b_1.deb").toList
private def noFilter : Filter := { includeSource := [], excludeSource := [], includeBinary := [], excludeBinary := [] }
example : (packagesMachine noFilter [["pool", "b_1.deb"]] (splitLines exText) []).toOption =
    some [{ path := ["pool", "a_1.deb"], size := 42, ignoreErrors := false }, { path := ["pool", "b_1.deb"], size := 7, ignoreErrors := true }] := by
  unfold exText; rw [String.toList_append]; repeat rw [String.toList_ofList]
  decide +kernel
example : (packagesMachine { noFilter with excludeSource := ["s".toList] } [] (splitLines exText) []).toOption =
    some [{ path := ["pool", "a_1.deb"], size := 42, ignoreErrors := false }] := by
  unfold exText; rw [String.toList_append]; repeat rw [String.toList_ofList]
  decide +kernel

end Index
end AptMirror
