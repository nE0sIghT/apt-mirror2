import AptMirror.Model.Publish
import AptMirror.Lemmas.FS
import AptMirror.Lemmas.List
namespace AptMirror

theorem isPrefix_iff_prefix {a b : Path} : isPrefix a b = true ↔ a <+: b := by
  induction a generalizing b with
  | nil => simp [isPrefix]
  | cons x xs ih => cases b <;> simp [isPrefix, List.cons_prefix_cons, ih]

theorem isPrefix_append_self (m r : Path) : isPrefix m (m ++ r) = true :=
  isPrefix_iff_prefix.mpr (List.prefix_append m r)

/-- sibling directories: `m/x` is a prefix of `m/y/...` iff `x = y` -/
theorem isPrefix_sibling (m : Path) (x y : String) (r : Path) :
    isPrefix (m ++ [x]) (m ++ [y] ++ r) = (x == y) := by
  induction m with
  | nil => simp [isPrefix]
  | cons a m ih =>
    simp only [List.cons_append, isPrefix, beq_self_eq_true, Bool.true_and]
    simpa using ih

theorem drop_sibling (m : Path) (x : String) (r : Path) : (m ++ [x] ++ r).drop (m ++ [x]).length = r := by
  simp

/-- names whose binding an operation may change -/
def Op.touches : Op → Path → Bool
  | .relink _ d, q => q == d
  | .renameDir a b, q => isPrefix a q || isPrefix b q
  | .rmtree a, q => isPrefix a q
  | .unlink p, q => q == p

theorem Op.apply_dat (fs : FS) (op : Op) : (op.apply fs).dat = fs.dat := by
  cases op <;> rfl

theorem Op.apply_ino_untouched (fs : FS) (op : Op) (q : Path) (h : op.touches q = false) :
    (op.apply fs).ino q = fs.ino q := by
  cases op with
  | relink s d =>
    simp only [Op.touches, beq_eq_false_iff_ne] at h
    simp [Op.apply, FS.relink, h]
  | renameDir a b =>
    simp only [Op.touches, Bool.or_eq_false_iff] at h
    simp [Op.apply, FS.renameDir, h.1, h.2]
  | rmtree a =>
    simp only [Op.touches] at h
    simp [Op.apply, FS.rmtree, h]
  | unlink p =>
    simp only [Op.touches, beq_eq_false_iff_ne] at h
    simp [Op.apply, FS.unlink, h]

theorem replay_dat (ops : List Op) (fs : FS) : (replay ops fs).dat = fs.dat := by
  induction ops generalizing fs with
  | nil => rfl
  | cons op ops ih => simp only [replay, List.foldl_cons] at ih ⊢; rw [ih, Op.apply_dat]

theorem replay_ino_untouched (ops : List Op) (fs : FS) (q : Path) (h : ∀ op ∈ ops, op.touches q = false) :
    (replay ops fs).ino q = fs.ino q := by
  induction ops generalizing fs with
  | nil => rfl
  | cons op ops ih =>
    simp only [replay, List.foldl_cons] at ih ⊢
    rw [ih _ (fun o ho => h o (List.mem_cons_of_mem _ ho)), Op.apply_ino_untouched _ _ _ (h op List.mem_cons_self)]

/-- a directory none of whose names is touched keeps its view -/
theorem replay_view_untouched (ops : List Op) (fs : FS) (d : Path)
    (h : ∀ op ∈ ops, ∀ rel, op.touches (d ++ rel) = false) : (replay ops fs).view d = fs.view d := by
  funext rel
  simp only [FS.view]
  rw [replay_ino_untouched ops fs (d ++ rel) (fun op ho => h op ho rel), replay_dat]

theorem replay_append (a b : List Op) (fs : FS) : replay (a ++ b) fs = replay b (replay a fs) := by
  simp [replay, List.foldl_append]

theorem forall_replay_take_cons {P : FS → Prop} {op : Op} {ops : List Op} {fs : FS} :
    (∀ k, P (replay ((op :: ops).take k) fs)) ↔ P fs ∧ ∀ k, P (replay (ops.take k) (op.apply fs)) :=
  forall_take_foldl_cons

theorem forall_replay_take_append {P : FS → Prop} {a b : List Op} {fs : FS} :
    (∀ k, P (replay ((a ++ b).take k) fs)) ↔ (∀ k, P (replay (a.take k) fs)) ∧ ∀ k, P (replay (b.take k) (replay a fs)) :=
  forall_take_foldl_append

/-- swap names as siblings below the mirror directory -/
structure Names where
  mirror : Path
  c : String
  n : String
  o : String
  hcn : c ≠ n
  hco : c ≠ o
  hno : n ≠ o

def Names.swap (N : Names) : Swap := { cur := N.mirror ++ [N.c], new := N.mirror ++ [N.n], old := N.mirror ++ [N.o] }

/-- nothing at or below `d` lies at or below `a` -/
def Apart (a d : Path) : Prop := ∀ rel, isPrefix a (d ++ rel) = false

theorem apart_sibling (m : Path) {x y : String} (h : x ≠ y) : Apart (m ++ [x]) (m ++ [y]) :=
  fun rel => by rw [isPrefix_sibling]; simpa using h

/-! ### what `renameDir` and `rmtree` do to the view of a directory -/
namespace FS

theorem absent_iff_view {fs : FS} {d : Path} : fs.absent d ↔ fs.view d = fun _ => none := by
  simp [absent, view, funext_iff]

theorem view_renameDir_dst (fs : FS) (a b : Path) : (fs.renameDir a b).view b = fs.view a := by
  funext rel
  simp [view, renameDir, isPrefix_append_self]

theorem view_renameDir_of_apart (fs : FS) {a b d : Path} (ha : Apart a d) (hb : Apart b d) :
    (fs.renameDir a b).view d = fs.view d := by
  funext rel
  simp [view, renameDir, ha rel, hb rel]

theorem absent_renameDir_src (fs : FS) {a b : Path} (h : Apart b a) : (fs.renameDir a b).absent a := fun rel => by
  simp [renameDir, h rel, isPrefix_append_self]

theorem view_rmtree_of_apart (fs : FS) {a d : Path} (h : Apart a d) : (fs.rmtree a).view d = fs.view d := by
  funext rel
  simp [view, rmtree, h rel]

theorem absent_rmtree (fs : FS) (a : Path) : (fs.rmtree a).absent a := fun rel => by
  simp [rmtree, isPrefix_append_self]

end FS

/-- a directory apart from everything the operations touch keeps its view -/
theorem replay_view_of_apart (ops : List Op) (fs : FS) {a b d : Path} (ha : Apart a d) (hb : Apart b d)
    (h : ∀ op ∈ ops, ∀ q, op.touches q = true → isPrefix a q = true ∨ isPrefix b q = true) :
    (replay ops fs).view d = fs.view d :=
  replay_view_untouched ops fs d fun op hop rel => Bool.eq_false_iff.mpr fun ht => by
    rcases h op hop _ ht with e | e
    · rw [ha rel] at e; cases e
    · rw [hb rel] at e; cases e

/-- `link_or_copy` only binds names among its targets -/
theorem linkOps_dst {src : Path} {ts : List Path} {op : Op} (h : op ∈ linkOps src ts) : ∃ s t, op = .relink s t ∧ t ∈ ts := by
  unfold linkOps at h
  split at h
  · cases h
  · split at h
    · cases h
    · exact ⟨src, _, List.mem_singleton.mp h, List.mem_singleton_self _⟩
  · simp only [List.mem_append, List.mem_map, List.mem_filter] at h
    rcases h with h | ⟨t, ⟨ht, _⟩, rfl⟩
    · split at h
      · cases h
      · exact ⟨src, _, List.mem_singleton.mp h, List.mem_cons_self⟩
    · exact ⟨_, t, rfl, ht⟩

/-- staging only binds names below the new directory -/
theorem stageOps_touches (sw : Swap) (files : List (Path × List Path)) {op : Op} (hop : op ∈ stageOps sw files) {q : Path}
    (hq : op.touches q = true) : isPrefix sw.new q = true := by
  obtain ⟨f, _, hf⟩ := List.mem_flatMap.mp hop
  obtain ⟨s, t, rfl, ht⟩ := linkOps_dst hf
  obtain ⟨r, _, rfl⟩ := List.mem_map.mp ht
  rw [show q = sw.new ++ r by simpa [Op.touches] using hq]
  exact isPrefix_append_self _ _

end AptMirror
