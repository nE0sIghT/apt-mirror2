/-! Facts about lists that several models need. -/
namespace AptMirror

/-- in a list whose elements have pairwise distinct keys, a key names one element -/
theorem eq_of_key_eq {α β : Type} {f : α → β} {l : List α} (h : l.Pairwise fun a b => f a ≠ f b) {a b : α}
    (ha : a ∈ l) (hb : b ∈ l) (e : f a = f b) : a = b :=
  List.Pairwise.forall_of_forall_of_flip (R := fun a b => f a = f b → a = b) (fun _ _ _ => rfl)
    (h.imp fun h e => absurd e h) (h.imp fun h e => absurd e.symm h) ha hb e

/-- what every step of a fold keeps, the fold keeps -/
theorem foldl_invariant {σ α : Type} {f : σ → α → σ} {P : σ → Prop} {l : List α} (step : ∀ x ∈ l, ∀ s, P s → P (f s x))
    {s : σ} (h : P s) : P (l.foldl f s) := by
  induction l generalizing s with
  | nil => exact h
  | cons x l ih => exact ih (fun y hy => step y (List.mem_cons_of_mem _ hy)) (step x List.mem_cons_self s h)

/-! ### every prefix of a run: the states a process killed at any point can leave behind -/

theorem forall_take_foldl_cons {σ α : Type} {f : σ → α → σ} {P : σ → Prop} {a : α} {l : List α} {s : σ} :
    (∀ k, P (((a :: l).take k).foldl f s)) ↔ P s ∧ ∀ k, P ((l.take k).foldl f (f s a)) :=
  ⟨fun h => ⟨h 0, fun k => h (k + 1)⟩, fun h k => match k with | 0 => h.1 | k + 1 => h.2 k⟩

theorem forall_take_foldl_append {σ α : Type} {f : σ → α → σ} {P : σ → Prop} {l₁ l₂ : List α} {s : σ} :
    (∀ k, P (((l₁ ++ l₂).take k).foldl f s)) ↔
      (∀ k, P ((l₁.take k).foldl f s)) ∧ ∀ k, P ((l₂.take k).foldl f (l₁.foldl f s)) := by
  induction l₁ generalizing s with
  | nil => exact ⟨fun h => ⟨fun k => by simpa using h 0, h⟩, fun h => h.2⟩
  | cons a l ih => simp only [List.cons_append, forall_take_foldl_cons, ih, List.foldl_cons, and_assoc]

end AptMirror
