import AptMirror.Model.Release
import AptMirror.Lemmas.Control
/-!
# C11 — inconsistent InRelease/Release pairs are never published

> If the InRelease and Release files obtained for a codename disagree on the size or on any hash of any
> listed file, the tool fetches them again up to the configured number of attempts and, if they still
> disagree (or no release file exists for the repository at all), fails the repository without publishing
> anything; if they agree, validation succeeds on the first attempt. The verdict depends only on the listed
> (name, size, hash) triples - not on entry order, signatures or unrelated fields.

Model: `Model/Release.lean` (`considered`, `checkSeq`, `validate`) for the verdict, `Model/Control.lean`
(`releaseLoop`) for the rounds.  Entries with a non-positive size and entries named like a release file are
not compared (as in the code).
-/
namespace AptMirror

/-- two entries agree: same name ⇒ same size, and same algorithm ⇒ same hash -/
def Agree (a b : VEntry) : Prop := a.name = b.name → a.size = b.size ∧ (a.algo = b.algo → a.hash = b.hash)

theorem Agree.symm {a b : VEntry} (h : Agree a b) : Agree b a :=
  fun e => ⟨(h e.symm).1.symm, fun e2 => ((h e.symm).2 e2.symm).symm⟩

theorem compat_iff (a b : VEntry) : compat a b = true ↔ Agree a b := by
  unfold compat Agree
  by_cases hn : a.name = b.name <;> by_cases ha : a.algo = b.algo <;> simp [hn, ha]

/-- the sequential check accepts iff the new entries agree with everything seen and with each other -/
theorem checkSeq_iff (seen es : List VEntry) :
    checkSeq seen es = true ↔ (∀ s ∈ seen, ∀ e ∈ es, Agree s e) ∧ es.Pairwise Agree := by
  induction es generalizing seen with
  | nil => simp [checkSeq]
  | cons e rest ih =>
    simp only [checkSeq, Bool.and_eq_true, List.all_eq_true, ih, List.mem_cons, List.pairwise_cons, compat_iff]
    constructor
    · rintro ⟨h1, h2, h3⟩
      refine ⟨?_, ?_, h3⟩
      · intro s hs x hx
        rcases hx with rfl | hx
        · exact h1 s hs
        · exact h2 s (Or.inr hs) x hx
      · intro x hx; exact h2 e (Or.inl rfl) x hx
    · rintro ⟨h1, h2, h3⟩
      refine ⟨fun s hs => h1 s hs e (Or.inl rfl), ?_, h3⟩
      intro s hs x hx
      rcases hs with rfl | hs
      · exact h2 x hx
      · exact h1 s hs x (Or.inr hx)

/-- **C11 (verdict of one codename).** The sequential check accepts iff every two considered entries of the
    codename's release files agree. -/
theorem C11_codename_iff (fs : List RelFile) :
    checkSeq [] (fs.flatMap considered) = true ↔ (fs.flatMap considered).Pairwise Agree := by
  simp [checkSeq_iff]

/-- **C11 (validate).** Validation succeeds iff at least one release file exists for the repository and, within
    every codename, all considered entries agree pairwise. -/
theorem C11_validate_iff (cns : List (List RelFile)) :
    validate cns = .ok ↔ (∃ fs ∈ cns, fs ≠ []) ∧ ∀ fs ∈ cns, (fs.flatMap considered).Pairwise Agree := by
  unfold validate
  by_cases h1 : (cns.any fun fs => !checkSeq [] (fs.flatMap considered)) = true
  · rw [if_pos h1]
    simp only [List.any_eq_true, Bool.not_eq_true', ← Bool.not_eq_true, C11_codename_iff] at h1
    obtain ⟨fs, hfs, hno⟩ := h1
    exact ⟨(fun h => nomatch h), fun ⟨_, h⟩ => absurd (h fs hfs) hno⟩
  · rw [if_neg h1]
    simp only [List.any_eq_true, Bool.not_eq_true', ← Bool.not_eq_true, C11_codename_iff, not_exists, not_and,
      Classical.not_not] at h1
    by_cases h2 : (cns.all fun fs => fs.isEmpty) = true
    · rw [if_pos h2]
      simp only [List.all_eq_true, List.isEmpty_iff] at h2
      exact ⟨(fun h => nomatch h), fun ⟨⟨fs, hfs, hne⟩, _⟩ => absurd (h2 fs hfs) hne⟩
    · rw [if_neg h2]
      simp only [List.all_eq_true, List.isEmpty_iff, Classical.not_forall, exists_prop] at h2
      exact ⟨fun _ => ⟨h2, h1⟩, fun _ => rfl⟩

/-- **C11 (order independence).** Reordering the considered entries (entry order inside a section, order of the
    sections, order of InRelease vs Release) does not change the verdict. -/
theorem C11_order_independent (es es' : List VEntry) (hp : es.Perm es') :
    checkSeq [] es = checkSeq [] es' := by
  rw [Bool.eq_iff_iff, checkSeq_iff, checkSeq_iff]
  simp only [List.not_mem_nil, false_imp_iff, implies_true, true_and]
  exact hp.pairwise_iff Agree.symm

/-- **C11 (signatures and unrelated fields).** The verdict is a function of `considered`, which reads only the
    hash sections: two release files with the same sections get the same verdict whatever else they contain. -/
theorem C11_only_sections (f g : RelFile) (h : f.sections = g.sections) : considered f = considered g := by
  unfold considered; rw [h]

/-- **C11 (agreeing files succeed on the first attempt).** -/
theorem C11_rounds_first (rounds : Nat → Round) (retries : Nat) (h : (rounds 0).valid = true) :
    releaseLoop rounds (max 1 retries) 0 = (1, some (rounds 0).hasErrors) := by
  have : max 1 retries = (max 1 retries - 1) + 1 := by omega
  rw [this]; simp [releaseLoop, h]

/-- **C11 (persistent disagreement).** If the release files are invalid in every round, exactly `max 1 retries`
    rounds are run and the repository fails (`C02_failed_no_publish`: nothing is published). -/
theorem C11_rounds_all_invalid (rounds : Nat → Round) (retries : Nat) (h : ∀ j, (rounds j).valid = false) :
    releaseLoop rounds (max 1 retries) 0 = (max 1 retries, none) := by
  rcases releaseLoop_spec rounds (max 1 retries) 0 (by omega) with ⟨j, _, _, hv, _⟩ | ⟨_, h2⟩
  · rw [h j] at hv; cases hv
  · rw [h2, Nat.zero_add]

/-! ### non-vacuity -/
private def e1 : RelEntry := { hash := "aa", sizeRaw := "10", name := "main/binary-amd64/Packages", parts := ["main", "binary-amd64", "Packages"] }
private def e2 : RelEntry := { e1 with sizeRaw := "11" }
private def fA : RelFile := { dir := ["dists", "s"], byHashYes := false, sections := [(.sha256, [e1])] }
private def fB : RelFile := { dir := ["dists", "s"], byHashYes := false, sections := [(.sha256, [e2])] }
example : validate [[fA, fA]] = .ok ∧ validate [[fA, fB]] = .inconsistent ∧ validate [[], []] = .noReleaseFiles := by decide

end AptMirror
