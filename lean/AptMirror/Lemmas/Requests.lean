import AptMirror.Lemmas.Download
namespace AptMirror

/-- number of transport-level reconnect signals left in a script -/
def retries (l : List Resp) : Nat := l.count .retry

/-- potential of URL `u`: requests made so far plus reconnect signals still to come. A pass through the loop body raises the
    potential of its own URL by exactly one and of no other, however many reconnect signals it meets. -/
def DState.pot (s : DState) (u : Path) : Nat := s.reqs.count u + retries (s.orc u)

theorem request_pot (s : DState) (u q : Path) : (s.request u).2.pot q = s.pot q + [u].count q := by
  have h := request_spec s u
  unfold DState.pot retries
  obtain ⟨k, hr, hk⟩ := h.self
  by_cases hq : q = u
  · subst hq
    rcases hk with ⟨_, ho, ho'⟩ | ⟨hne, ho⟩
    · rw [hr, ho, ho']; simp [List.count_append]; omega
    · rw [hr, ho]; simp [List.count_append, hne]; omega
  · rw [h.other q hq, hr]; simp [List.count_append, List.count_replicate, Ne.symm hq]

theorem attempt_pot (root : Path) (f : DFile) (v : Variant) (src : Path) (s : DState) (err : Bool) (u : Path) :
    (attempt root f v src s err).state.pot u = s.pot u + [src].count u := by
  have h := attempt_reqs root f v src s err
  rw [← request_pot, DState.pot, DState.pot, h.1, h.2]

/-- **the loop makes at most `n` try-consuming requests of its URL and none of any other** -/
theorem tryLoop_pot (root : Path) (f : DFile) (v : Variant) (src : Path) (n : Nat) (s : DState) (err : Bool) (u : Path) :
    (tryLoop root f v src n s err).2.1.pot u ≤ s.pot u + n * [src].count u := by
  induction n generalizing s err with
  | zero => simp [tryLoop]
  | succ n ih =>
    unfold tryLoop
    have h := attempt_pot root f v src s err u
    rw [Nat.succ_mul]
    split <;> rename_i heq <;> rw [heq] at h <;> simp only [Attempt.state] at h
    · simp only; omega
    · simp only; omega
    · rename_i s' e'; have := ih s' e'; omega

theorem tryAliases_pot (root : Path) (f : DFile) (v : Variant) (srcs : List Path) (s : DState) (err : Bool) (u : Path) :
    (tryAliases root f v srcs s err).2.1.pot u ≤ s.pot u + 10 * srcs.count u := by
  induction srcs generalizing s err with
  | nil => simp [tryAliases]
  | cons src rest ih =>
    unfold tryAliases
    have h := tryLoop_pot root f v src 10 s err u
    have hc : (src :: rest).count u = [src].count u + rest.count u := List.count_append (l₁ := [src])
    split <;> rename_i heq <;> rw [heq] at h
    · simp only at h ⊢; omega
    · rename_i s1 e1; have := ih s1 e1; simp only at h; omega

def occurrences (u : Path) (vs : List Variant) : Nat := (vs.flatMap Variant.allPaths).count u

theorem tryVariants_pot (root : Path) (f : DFile) (vs : List Variant) (s : DState) (err : Bool) (u : Path) :
    (tryVariants root f vs s err).2.1.pot u ≤ s.pot u + 10 * occurrences u vs := by
  induction vs generalizing s err with
  | nil => simp [tryVariants]
  | cons v rest ih =>
    unfold tryVariants
    have h := tryAliases_pot root f v v.allPaths s err u
    have hc : occurrences u (v :: rest) = v.allPaths.count u + occurrences u rest := by
      simp [occurrences, List.count_append]
    split <;> rename_i heq <;> rw [heq] at h
    · simp only at h ⊢; omega
    · rename_i s1 e1; have := ih s1 e1; simp only at h; omega

theorem downloadFile_pot (root : Path) (f : DFile) (s : DState) (u : Path) :
    (downloadFile root f s).pot u ≤ s.pot u + 10 * occurrences u f.iterVariants := by
  obtain ⟨b, hb⟩ := downloadFile_eq root f s
  rw [hb]
  exact tryVariants_pot root f f.iterVariants s false u

theorem downloadOne_pot (root : Path) (f : DFile) (s : DState) (u : Path) :
    (downloadOne root f s).pot u ≤ s.pot u + 10 * occurrences u f.iterVariants := by
  rcases downloadOne_cases root f s with ⟨_, _, _, _, h⟩ | ⟨_, h⟩ <;> rw [h]
  · exact Nat.le_add_right _ _
  · exact downloadFile_pot root f s u

theorem foldl_downloadOne_pot (root : Path) (q : List DFile) (s : DState) (u : Path) :
    (q.foldl (fun acc f => downloadOne root f acc) s).pot u
      ≤ s.pot u + 10 * (q.map fun f => occurrences u f.iterVariants).sum := by
  induction q generalizing s with
  | nil => simp
  | cons f rest ih =>
    simp only [List.foldl_cons, List.map_cons, List.sum_cons]
    have h1 := downloadOne_pot root f s u
    have h2 := ih (downloadOne root f s)
    omega

end AptMirror
