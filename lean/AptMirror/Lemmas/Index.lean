import AptMirror.Lemmas.Stanza
/-!
Field-level semantics of a Packages index and the proof that the line machine of `PackagesParser._do_parse_index` computes it:
rendering of fields into lines (continuation lines, optional missing final newline), blank separators, final flush.
-/
namespace AptMirror
namespace Index
open Str Cfg

/-! ### whitespace stripping -/

/-- a text with no blank at either end -/
structure Clean (s : S) : Prop where
  head : ∃ c r, s = c :: r ∧ isWs c = false
  last : ∃ r c, s = r ++ [c] ∧ isWs c = false

/-- whatever lies between a clean start and a clean end -/
theorem Clean.append {a b : S} (ha : ∃ c r, a = c :: r ∧ isWs c = false) (m : S) (hb : ∃ r c, b = r ++ [c] ∧ isWs c = false) :
    Clean (a ++ m ++ b) := by
  obtain ⟨c, r, rfl, hc⟩ := ha
  obtain ⟨r', c', rfl, hc'⟩ := hb
  exact ⟨⟨c, r ++ m ++ (r' ++ [c']), rfl, hc⟩, ⟨c :: r ++ m ++ r', c', by simp, hc'⟩⟩

theorem strip_pad (a s b : S) (ha : a.all isWs = true) (hb : b.all isWs = true) (hs : Clean s) : strip (a ++ s ++ b) = s := by
  obtain ⟨c, r, hcr, hc⟩ := hs.head
  obtain ⟨r', c', hcr', hc'⟩ := hs.last
  unfold strip lstrip
  rw [List.append_assoc, List.dropWhile_append_of_pos (List.all_eq_true.mp ha)]
  have h1 : (s ++ b).dropWhile isWs = s ++ b := by rw [hcr]; exact List.dropWhile_cons_of_neg (by simp [hc])
  rw [h1, List.reverse_append, List.dropWhile_append_of_pos (by simpa using hb)]
  have h2 : s.reverse.dropWhile isWs = s.reverse := by
    rw [hcr', List.reverse_append]; exact List.dropWhile_cons_of_neg (by simp [hc'])
  rw [h2, List.reverse_reverse]

/-- a text that begins with a character that is no blank does not begin with a blank -/
theorem head_ne_ws {a : S} (ha : ∃ c r, a = c :: r ∧ isWs c = false) (r : S) (c : Char) (hc : isWs c = true) :
    (a ++ r).head? ≠ some c := by
  obtain ⟨d, r', rfl, hd⟩ := ha
  intro e
  rw [← Option.some.inj e, hd] at hc
  cases hc

/-- end of a line: `"\n"` or nothing (last line of a file without final newline) -/
def IsEol (nl : S) : Prop := nl = ['\n'] ∨ nl = []

theorem IsEol.all {nl : S} (h : IsEol nl) : nl.all isWs = true := by
  rcases h with rfl | rfl <;> decide

/-- a field name as it occurs in control files: not empty, no colon, does not start with a blank or a newline -/
structure NameOK (name : S) : Prop where
  nocolon : ':' ∉ name
  head : ∃ c r, name = c :: r ∧ isWs c = false

/-- the value the parser reads from the line `name: value<eol>` is `value` -/
theorem lineValue_render (name value nl : S) (hn : NameOK name) (hv : Clean value) (hnl : IsEol nl) :
    lineValue (name ++ ':' :: ' ' :: value ++ nl) = some value := by
  have h1 : strip (name ++ ':' :: ' ' :: value ++ nl) = name ++ ':' :: ' ' :: value := by
    have := strip_pad [] _ nl rfl hnl.all (Clean.append hn.head [':', ' '] hv.last)
    simpa [List.append_assoc] using this
  have h2 : (name ++ ':' :: ' ' :: value).dropWhile (· ≠ ':') = ':' :: ' ' :: value := by
    rw [List.dropWhile_append_of_pos (fun c hc => by simpa using fun e : c = ':' => hn.nocolon (e ▸ hc)),
      List.dropWhile_cons_of_neg (by simp)]
  have h3 : strip (' ' :: value) = value := by simpa using strip_pad [' '] value [] (by decide) rfl hv
  simp only [lineValue, h1, h2, h3]

/-! ### recognising a field by its name -/

/-- a text has one first colon -/
theorem colon_split_unique (a b x y : S) (ha : ':' ∉ a) (hb : ':' ∉ b) (h : a ++ ':' :: x = b ++ ':' :: y) : a = b := by
  induction a generalizing b with
  | nil =>
    cases b with
    | nil => rfl
    | cons d ds => exact absurd ((List.cons.inj h).1 ▸ List.mem_cons_self) hb
  | cons c cs ih =>
    cases b with
    | nil => exact absurd ((List.cons.inj h).1 ▸ List.mem_cons_self) ha
    | cons d ds =>
      obtain ⟨rfl, h2⟩ := List.cons.inj h
      rw [ih ds (fun hm => ha (List.mem_cons_of_mem _ hm)) (fun hm => hb (List.mem_cons_of_mem _ hm)) h2]

/-- the test `line.startswith(b"<key>:")` on a line `name:…` finds exactly the name `key` -/
theorem startsWith_colon (key name rest : S) (hk : ':' ∉ key) (hn : ':' ∉ name) :
    startsWith (name ++ ':' :: rest) (key ++ [':']) = decide (name = key) := by
  rw [Bool.eq_iff_iff, decide_eq_true_iff, startsWith, List.isPrefixOf_iff_prefix]
  constructor
  · rintro ⟨t, ht⟩
    rw [List.append_assoc] at ht
    exact (colon_split_unique key name _ _ hk hn ht).symm
  · rintro rfl
    exact (List.prefix_append_right_inj _).mpr ((List.prefix_cons_inj _).mpr List.nil_prefix)

/-- a line whose first character is not the key's does not pass the test -/
theorem startsWith_head (c : Char) (rest key tail : S) (hk : key.head? ≠ some c) (hne : key ≠ []) :
    startsWith (c :: rest) (key ++ tail) = false := by
  cases key with
  | nil => exact absurd rfl hne
  | cons k ks =>
    simp only [startsWith, List.cons_append, List.isPrefixOf, Bool.and_eq_false_iff, beq_eq_false_iff_ne]
    exact Or.inl fun e => hk (by rw [e]; rfl)

/-! ### fields and their rendering -/

/-- one field of a stanza: `name:rest<eol>` followed by continuation lines ` text<eol>` -/
structure Field where
  name : S
  rest : S
  eol : S := ['\n']
  cont : List (S × S) := []

def Field.first (f : Field) : S := f.name ++ ':' :: f.rest ++ f.eol
def contLine (c : S × S) : S := ' ' :: c.1 ++ c.2
def Field.lines (f : Field) : List S := f.first :: f.cont.map contLine

def kPackage : S := "Package".toList
def kSource : S := "Source".toList
def kFilename : S := "Filename".toList
def kSize : S := "Size".toList
def hashNames : List S := ["MD5Sum".toList, "SHA1".toList, "SHA256".toList, "SHA512".toList]

/-- the field is one the parser reads a value from -/
def Field.valued (f : Field) : Prop := f.name = kPackage ∨ f.name = kSource ∨ f.name = kFilename ∨ f.name = kSize

/-- well-formed field: a proper name, line ends that are line ends, and for the fields whose value is read the canonical
    rendering `Name: value` with a value that has no blank at either end -/
structure Field.OK (f : Field) : Prop where
  name : NameOK f.name
  eol : IsEol f.eol
  value : f.valued → ∃ v, f.rest = ' ' :: v ∧ Clean v

/-- **field-level semantics** of one Packages field (what the format says the field means to the mirror) -/
def specField (s : PState) (f : Field) : Except Err PState :=
  let v := f.rest.drop 1
  if f.name = kPackage then pure { s with package := some v }
  else if f.name = kSource then
    match Cfg.splitWs v with
    | w :: _ => pure { s with source := some w }
    | [] => throw .indexError
  else if f.name = kFilename then
    let p := pathParts v
    if lexSafe p then pure { s with filePath := some p } else pure s
  else if f.name = kSize then
    match parseInt v with
    | some n => pure { s with size := n }
    | none => throw .valueError
  else if f.name ∈ hashNames then pure { s with hasHash := true }
  else pure s

theorem startsWith_first (f : Field) (key : S) (hk : ':' ∉ key) (hn : ':' ∉ f.name) :
    startsWith f.first (key ++ [':']) = decide (f.name = key) := by
  rw [Field.first, List.append_assoc]
  exact startsWith_colon key f.name _ hk hn

theorem first_head_ne (f : Field) (h : NameOK f.name) (c : Char) (hc : isWs c = true) : f.first.head? ≠ some c := by
  rw [Field.first, List.append_assoc]
  exact head_ne_ws h.head _ c hc

/-- the keys as the parser spells them (`String.toList_ofList` reads the characters off a literal; `decide` and `rfl` decode
    it, which takes time far above linear in its length) -/
theorem key_package : "Package:".toList = kPackage ++ [':'] ∧ NameOK kPackage := by
  unfold kPackage; rw [String.toList_ofList, String.toList_ofList]; exact ⟨rfl, by decide, _, _, rfl, by decide⟩
theorem key_source : "Source:".toList = kSource ++ [':'] ∧ NameOK kSource := by
  unfold kSource; rw [String.toList_ofList, String.toList_ofList]; exact ⟨rfl, by decide, _, _, rfl, by decide⟩
theorem key_filename : "Filename:".toList = kFilename ++ [':'] ∧ NameOK kFilename := by
  unfold kFilename; rw [String.toList_ofList, String.toList_ofList]; exact ⟨rfl, by decide, _, _, rfl, by decide⟩
theorem key_size : "Size:".toList = kSize ++ [':'] ∧ NameOK kSize := by
  unfold kSize; rw [String.toList_ofList, String.toList_ofList]; exact ⟨rfl, by decide, _, _, rfl, by decide⟩
theorem key_hashes : hashPrefixes = hashNames.map (· ++ [':']) ∧ ∀ k ∈ hashNames, NameOK k := by
  unfold hashPrefixes hashNames
  repeat rw [String.toList_ofList]
  refine ⟨rfl, ?_⟩
  simp only [List.mem_cons, List.not_mem_nil, or_false]
  rintro k (rfl | rfl | rfl | rfl) <;> exact ⟨by decide, _, _, rfl, by decide⟩

theorem any_startsWith_first (f : Field) (keys : List S) (hk : ∀ k ∈ keys, ':' ∉ k) (hn : ':' ∉ f.name) :
    (keys.map (· ++ [':'])).any (startsWith f.first) = decide (f.name ∈ keys) := by
  induction keys with
  | nil => rfl
  | cons k ks ih =>
    rw [List.map_cons, List.any_cons, startsWith_first f k (hk k List.mem_cons_self) hn,
      ih (fun x hx => hk x (List.mem_cons_of_mem _ hx))]
    simp only [List.mem_cons, Bool.decide_or]

/-- **one rendered field line is read as the field means** -/
theorem packagesLine_first (flt : Filter) (ign : List Path) (s : PState) (pool : List PoolFile) (f : Field) (hf : f.OK) :
    packagesLine flt ign (s, pool) f.first = (specField s f).map (·, pool) := by
  have hn := hf.name.nocolon
  have hval : f.valued → lineValue f.first = some (f.rest.drop 1) := by
    intro hv
    obtain ⟨v, hr, hc⟩ := hf.value hv
    have := lineValue_render f.name v f.eol hf.name hc hf.eol
    rwa [Field.first, hr]
  unfold packagesLine specField
  simp only [first_head_ne f hf.name '\n' rfl, ne_eq, not_false_eq_true, if_true,
    key_package.1, key_source.1, key_filename.1, key_size.1, key_hashes.1,
    startsWith_first f _ key_package.2.nocolon hn, startsWith_first f _ key_source.2.nocolon hn,
    startsWith_first f _ key_filename.2.nocolon hn, startsWith_first f _ key_size.2.nocolon hn,
    any_startsWith_first f _ (fun k hk => (key_hashes.2 k hk).nocolon) hn, decide_eq_true_eq]
  by_cases h1 : f.name = kPackage
  · rw [if_pos h1, if_pos h1, hval (Or.inl h1)]; rfl
  rw [if_neg h1, if_neg h1]
  by_cases h2 : f.name = kSource
  · rw [if_pos h2, if_pos h2, hval (Or.inr (Or.inl h2))]
    dsimp only
    cases Cfg.splitWs (f.rest.drop 1) <;> rfl
  rw [if_neg h2, if_neg h2]
  by_cases h3 : f.name = kFilename
  · rw [if_pos h3, if_pos h3, hval (Or.inr (Or.inr (Or.inl h3)))]
    dsimp only
    cases lexSafe (pathParts (f.rest.drop 1)) <;> rfl
  rw [if_neg h3, if_neg h3]
  by_cases h4 : f.name = kSize
  · rw [if_pos h4, if_pos h4, hval (Or.inr (Or.inr (Or.inr h4)))]
    dsimp only
    cases parseInt (f.rest.drop 1) <;> rfl
  rw [if_neg h4, if_neg h4]
  by_cases h5 : f.name ∈ hashNames
  · rw [if_pos h5, if_pos h5]; rfl
  · rw [if_neg h5, if_neg h5]; rfl

/-- a line that starts with a blank changes nothing -/
theorem packagesLine_blankstart (flt : Filter) (ign : List Path) (s : PState) (pool : List PoolFile) (l : S) :
    packagesLine flt ign (s, pool) (' ' :: l) = .ok (s, pool) := by
  have sw : ∀ k, NameOK k → startsWith (' ' :: l) (k ++ [':']) = false := by
    intro k hk
    obtain ⟨c, r, rfl, hc⟩ := hk.head
    exact startsWith_head ' ' l _ _ (fun e => by cases e; revert hc; decide) (List.cons_ne_nil _ _)
  have hh : (hashNames.map (· ++ [':'])).any (startsWith (' ' :: l)) = false := by
    rw [List.any_map, List.any_eq_false]
    exact fun k hk => by simp only [Function.comp, sw k (key_hashes.2 k hk)]; exact Bool.false_ne_true
  unfold packagesLine
  simp only [key_package.1, key_source.1, key_filename.1, key_size.1, key_hashes.1, sw _ key_package.2, sw _ key_source.2,
    sw _ key_filename.2, sw _ key_size.2, hh, List.head?_cons, ne_eq, Option.some.injEq, Char.reduceEq, not_false_eq_true,
    if_true, Bool.false_eq_true, if_false]
  rfl

/-- field-level semantics of the fields of one stanza, read in order from state `s` -/
def specFields (s : PState) (fs : List Field) : Except Err PState := fs.foldlM specField s

/-- what the end of a stanza does with the fields read so far: at most one pool file -/
def flush (flt : Filter) (ign : List Path) (s : PState) (pool : List PoolFile) : List PoolFile :=
  match s.package, s.filePath with
  | some pkg, some fp =>
    if pkg.isEmpty || s.size = 0 then pool
    else if !flt.allowed (s.srcName pkg) (some pkg) then pool
    else putPool pool { path := fp, size := s.size, ignoreErrors := shouldIgnore ign fp }
  | _, _ => pool

theorem packagesLine_blank (flt : Filter) (ign : List Path) (s : PState) (pool : List PoolFile) :
    packagesLine flt ign (s, pool) ['\n'] = .ok ({}, flush flt ign s pool) := by
  unfold packagesLine flush
  dsimp only
  rw [if_neg (by decide)]
  cases s.package with
  | none => rfl
  | some pkg =>
    cases s.filePath with
    | none => rfl
    | some fp =>
      dsimp only
      split
      · rfl
      · cases flt.allowed (s.srcName pkg) (some pkg) <;> rfl

theorem flush_empty (flt : Filter) (ign : List Path) (pool : List PoolFile) : flush flt ign {} pool = pool := rfl

/-- **one rendered field is read as the field means**: its first line by `packagesLine_first`, its continuation lines not at all -/
theorem packages_field (flt : Filter) (ign : List Path) (f : Field) (hf : f.OK) (s : PState) (pool : List PoolFile) :
    Reads id pool (f.lines.foldlM (packagesLine flt ign) (s, pool)) (specField s f) := by
  rw [Field.lines, List.foldlM_cons, packagesLine_first flt ign s pool f hf]
  cases specField s f with
  | error e => rfl
  | ok a =>
    refine ⟨a, ?_, rfl⟩
    show (f.cont.map contLine).foldlM (packagesLine flt ign) (a, pool) = _
    induction f.cont with
    | nil => rfl
    | cons c cs ih => rw [List.map_cons, List.foldlM_cons, contLine, List.cons_append, packagesLine_blankstart]; exact ih

/-- a stanza: its fields, followed by `blanks` empty lines -/
structure Stanza where
  fields : List Field
  blanks : Nat

def Stanza.lines (st : Stanza) : List S := st.fields.flatMap Field.lines ++ List.replicate st.blanks ['\n']

/-- **stanza-level specification of a Packages index**: each stanza is read on its own (from the empty state) and contributes
    at most one pool file -/
def specIndex (flt : Filter) (ign : List Path) (sts : List Stanza) (pool : List PoolFile) : Except Err (List PoolFile) :=
  sts.foldlM (fun pool st => do let s ← specFields {} st.fields; pure (flush flt ign s pool)) pool

/-! ### what a stanza's `Package` is: the value of its (last) `Package` field -/
def lastField (key : S) (fs : List Field) : Option Field := (fs.filter (fun f => f.name = key)).getLast?

theorem specField_package (s s1 : PState) (f : Field) (h : specField s f = .ok s1) :
    s1.package = if f.name = kPackage then some (f.rest.drop 1) else s.package := by
  unfold specField at h
  by_cases h1 : f.name = kPackage
  · simp only [h1, if_true, pure, Except.pure, Except.ok.injEq] at h
    rw [← h]; simp [h1]
  · simp only [h1, if_false] at h ⊢
    split at h
    · split at h
      · simp only [pure, Except.pure, Except.ok.injEq] at h; rw [← h]
      · cases h
    · split at h
      · split at h <;> (simp only [pure, Except.pure, Except.ok.injEq] at h; rw [← h])
      · split at h
        · split at h
          · simp only [pure, Except.pure, Except.ok.injEq] at h; rw [← h]
          · cases h
        · split at h <;> (simp only [pure, Except.pure, Except.ok.injEq] at h; rw [← h])

theorem specFields_cons (s : PState) (f : Field) (fs : List Field) (s' : PState) (h : specFields s (f :: fs) = .ok s') :
    ∃ s1, specField s f = .ok s1 ∧ specFields s1 fs = .ok s' := by
  unfold specFields at h
  simp only [List.foldlM_cons, bind, Except.bind] at h
  cases hs : specField s f with
  | error e => rw [hs] at h; cases h
  | ok s1 => rw [hs] at h; exact ⟨s1, rfl, h⟩

/-- the `package` read from a stanza is the value of its last `Package` field (its only one in a well-formed stanza), or
    what it was before if the stanza has none -/
theorem specFields_package (fs : List Field) (s s' : PState) (h : specFields s fs = .ok s') :
    s'.package = match lastField kPackage fs with
      | some f => some (f.rest.drop 1)
      | none => s.package := by
  induction fs generalizing s with
  | nil =>
    simp only [specFields, List.foldlM_nil, pure, Except.pure, Except.ok.injEq] at h
    rw [← h]; rfl
  | cons f fs ih =>
    obtain ⟨s1, h1, h2⟩ := specFields_cons s f fs s' h
    have hi := ih s1 h2
    have hp := specField_package s s1 f h1
    unfold lastField at hi ⊢
    by_cases hn : f.name = kPackage
    · simp only [List.filter_cons, hn, decide_true, if_true]
      cases hf : (fs.filter (fun f => decide (f.name = kPackage))) with
      | nil =>
        rw [hf] at hi
        simp only [List.getLast?_nil] at hi
        simp only [List.getLast?_singleton]
        rw [hi, hp]; simp [hn]
      | cons g gs =>
        rw [hf] at hi
        rw [List.getLast?_cons_cons]
        exact hi
    · simp only [List.filter_cons, hn, decide_false, Bool.false_eq_true, if_false]
      rw [hi]
      cases (fs.filter (fun f => decide (f.name = kPackage))).getLast? with
      | some g => rfl
      | none => simp only; rw [hp]; simp [hn]

end Index
end AptMirror
