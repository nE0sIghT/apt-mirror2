import AptMirror.Model.Mirror
import AptMirror.Lemmas.List
/-!
Lemmas about the L2 run model.  A run is a list of operations, each of which touches one pool path (`Op.target`) or swaps the
metadata; what a list of operations leaves alone is read off its targets (`exec_pool_of_ne`, `exec_dists`), and since a crash
state is a sublist of the run, the same two lemmas speak about every crash point.  Sizes are followed through the pool stage
(`pool_present`), bodies by the invariant `K` (a file at a needed path holds — a prefix of — the body served for that path),
the enumeration the cleaner relies on by the invariant `WF`.
-/
namespace AptMirror
namespace Mirror

/-- every bound pool name is enumerated -/
def WF (t : Tree) : Prop := ∀ p, t.pool p ≠ none → p ∈ t.dom

/-- queue well-formedness: one entry per path, and a fault-free transfer delivers exactly the declared size -/
structure NeedOK (need : Need) : Prop where
  distinct : need.pool.Pairwise (fun a b => a.path ≠ b.path)
  sums : ∀ n ∈ need.pool, n.chunks.sum = n.size

/-- S1 (pool paths are immutable): whatever is stored at a needed path consists of bytes of the body the upstream serves for
    that path (possibly only a prefix of it) -/
def K (need : Need) (t : Tree) : Prop := ∀ n ∈ need.pool, ∀ f, t.pool n.path = some f → f.tag = n.tag

theorem exec_append (a b : List Op) (t : Tree) : exec (a ++ b) t = exec b (exec a t) := by
  simp [exec, List.foldl_append]

theorem exec_nil (t : Tree) : exec [] t = t := rfl
theorem exec_cons (o : Op) (os : List Op) (t : Tree) : exec (o :: os) t = exec os (step t o) := rfl

/-! ### what a list of operations leaves alone -/

/-- the pool path an operation writes or removes -/
def Op.target : Op → Option Path
  | .create p _ | .append p _ | .remove p => some p
  | .swap _ => none

/-- what every operation of a list preserves, the list preserves; so does each of its prefixes, the crash states -/
theorem exec_invariant {P : Tree → Prop} {ops : List Op} (hstep : ∀ op ∈ ops, ∀ t, P t → P (step t op)) {t : Tree} (h : P t) :
    P (exec ops t) :=
  foldl_invariant hstep h

theorem exec_pool_of_ne {ops : List Op} {q : Path} (h : ∀ op ∈ ops, op.target ≠ some q) (t : Tree) :
    (exec ops t).pool q = t.pool q :=
  exec_invariant (P := fun t' => t'.pool q = t.pool q) (fun op hop t' ht' => ht' ▸ by
    cases op with
    | swap => rfl
    | create p _ | append p _ | remove p => exact if_neg fun e => h _ hop (congrArg some e.symm)) rfl

theorem exec_dists {ops : List Op} (h : ∀ op ∈ ops, op.target ≠ none) (t : Tree) : (exec ops t).dists = t.dists :=
  exec_invariant (P := fun t' => t'.dists = t.dists) (fun op hop t' ht' => ht' ▸ by
    cases op with
    | swap => exact absurd rfl (h _ hop)
    | create | append | remove => rfl) rfl

/-- without removals no name disappears -/
theorem exec_keeps_names {ops : List Op} (h : ∀ op ∈ ops, ∀ p, op ≠ .remove p) (t : Tree) (q : Path) (hq : t.pool q ≠ none) :
    (exec ops t).pool q ≠ none :=
  exec_invariant (P := fun t' => t'.pool q ≠ none) (fun op hop t' ht' => by
    cases op with
    | swap m => exact ht'
    | remove r => exact absurd rfl (h _ hop r)
    | create r tag => show (if q = r then _ else _) ≠ none; split <;> simp [ht']
    | append r k =>
      show (if q = r then _ else _) ≠ none
      split
      · next e => rw [← e, ne_eq, Option.map_eq_none_iff]; exact ht'
      · exact ht') hq

/-! ### writing one file -/

theorem appends_pool (cs : List Nat) (p : Path) (t : Tree) (f : File) (h : t.pool p = some f) :
    (exec (cs.map (.append p)) t).pool p = some ⟨f.size + cs.sum, f.tag⟩ := by
  induction cs generalizing t f with
  | nil => simpa [exec_nil] using h
  | cons c cs ih =>
    rw [List.map_cons, exec_cons, ih _ ⟨f.size + c, f.tag⟩ (by simp [step, h])]
    simp [Nat.add_assoc]

theorem mem_writeOps {n : PoolNeed} {op : Op} :
    op ∈ writeOps n ↔ op = .create n.path n.tag ∨ ∃ c ∈ n.chunks, op = .append n.path c := by
  simp [writeOps, eq_comm]

theorem writeOps_target {n : PoolNeed} {op : Op} (h : op ∈ writeOps n) : op.target = some n.path := by
  obtain rfl | ⟨c, -, rfl⟩ := mem_writeOps.mp h <;> rfl

theorem present_iff {t : Tree} {n : PoolNeed} : present t n = true ↔ ∃ f, t.pool n.path = some f ∧ f.size = n.size := by
  unfold present; cases t.pool n.path <;> simp

/-- `present` looks at one path only -/
theorem present_congr {t t' : Tree} {n : PoolNeed} (h : t'.pool n.path = t.pool n.path) : present t' n = present t n := by
  unfold present; rw [h]

theorem mem_fileOps {t : Tree} {n : PoolNeed} {op : Op} : op ∈ fileOps t n ↔ present t n = false ∧ op ∈ writeOps n := by
  unfold fileOps; cases present t n <;> simp

theorem fileOps_present (t : Tree) (n : PoolNeed) (hs : n.chunks.sum = n.size) : present (exec (fileOps t n) t) n = true := by
  unfold fileOps
  split
  · assumption
  · rw [present_iff, writeOps, exec_cons, appends_pool _ _ _ ⟨0, n.tag⟩ (by simp [step])]
    exact ⟨_, rfl, by simpa using hs⟩

/-! ### the pool stage -/

/-- every operation of the pool stage writes a queue entry; with one entry per path, one that lacked its declared size when
    the run began -/
theorem poolOps_mem (ns : List PoolNeed) (t : Tree) (op : Op) (h : op ∈ poolOps t ns) :
    ∃ n ∈ ns, op ∈ writeOps n ∧ (ns.Pairwise (fun a b => a.path ≠ b.path) → present t n = false) := by
  induction ns generalizing t with
  | nil => cases h
  | cons n ns ih =>
    rcases List.mem_append.mp h with h | h
    · exact ⟨n, List.mem_cons_self, (mem_fileOps.mp h).2, fun _ => (mem_fileOps.mp h).1⟩
    · obtain ⟨m, hm, ho, hp⟩ := ih _ h
      refine ⟨m, List.mem_cons_of_mem _ hm, ho, fun hd => ?_⟩
      obtain ⟨hn, hd⟩ := List.pairwise_cons.mp hd
      rw [← hp hd]
      refine (present_congr (exec_pool_of_ne (fun o ho => ?_) t)).symm
      rw [writeOps_target (mem_fileOps.mp ho).2]; exact fun e => hn m hm (Option.some.inj e)

theorem poolOps_no_remove (ns : List PoolNeed) (t : Tree) (q : Path) : Op.remove q ∉ poolOps t ns := fun h => by
  obtain ⟨n, -, ho, -⟩ := poolOps_mem ns t _ h
  obtain e | ⟨c, -, e⟩ := mem_writeOps.mp ho <;> cases e

/-- after the pool stage every queue entry is there with its declared size -/
theorem pool_present (ns : List PoolNeed) (t : Tree) (hd : ns.Pairwise (fun a b => a.path ≠ b.path))
    (hs : ∀ n ∈ ns, n.chunks.sum = n.size) : ∀ n ∈ ns, present (exec (poolOps t ns) t) n = true := by
  induction ns generalizing t with
  | nil => exact fun _ h => nomatch h
  | cons m ns ih =>
    obtain ⟨hm, hd⟩ := List.pairwise_cons.mp hd
    intro n hn
    rw [poolOps, exec_append]
    rcases List.mem_cons.mp hn with rfl | hn
    · rw [present_congr (exec_pool_of_ne (fun o ho => ?_) _), fileOps_present t n (hs n List.mem_cons_self)]
      obtain ⟨k, hk, ho, -⟩ := poolOps_mem _ _ _ ho
      rw [writeOps_target ho]; exact fun e => hm k hk (Option.some.inj e).symm
    · exact ih _ hd (fun k hk => hs k (List.mem_cons_of_mem _ hk)) n hn

theorem poolOps_nil_of_present (ns : List PoolNeed) (t : Tree) (h : ∀ n ∈ ns, present t n = true) : poolOps t ns = [] := by
  induction ns with
  | nil => rfl
  | cons n ns ih =>
    have hn : fileOps t n = [] := by simp [fileOps, h n List.mem_cons_self]
    simp only [poolOps, hn, exec_nil, List.nil_append]
    exact ih (fun m hm => h m (List.mem_cons_of_mem _ hm))

/-- a crash inside the pool stage: the metadata is as before, no name is gone, and only queue entries that lacked their
    declared size have been touched -/
theorem pool_prefix (ns : List PoolNeed) (t : Tree) (hd : ns.Pairwise (fun a b => a.path ≠ b.path)) (k : Nat) :
    (exec ((poolOps t ns).take k) t).dists = t.dists ∧
    (∀ p, t.pool p ≠ none → (exec ((poolOps t ns).take k) t).pool p ≠ none) ∧
    (∀ p, (∀ n ∈ ns, n.path = p → present t n = true) → (exec ((poolOps t ns).take k) t).pool p = t.pool p) := by
  have hops : ∀ op ∈ (poolOps t ns).take k, ∃ n ∈ ns, op ∈ writeOps n ∧ present t n = false := fun op hop =>
    let ⟨n, hn, ho, hp⟩ := poolOps_mem ns t op (List.mem_of_mem_take hop); ⟨n, hn, ho, hp hd⟩
  refine ⟨exec_dists (fun op hop => ?_) t, exec_keeps_names (fun op hop p e => ?_) t, fun p hp => exec_pool_of_ne (fun op hop e => ?_) t⟩
  · obtain ⟨n, -, ho, -⟩ := hops op hop
    simp [writeOps_target ho]
  · exact poolOps_no_remove ns t p (e ▸ List.mem_of_mem_take hop)
  · obtain ⟨n, hn, ho, hpr⟩ := hops op hop
    rw [writeOps_target ho] at e
    rw [hp n hn (Option.some.inj e)] at hpr
    cases hpr

/-! ### the cleaner -/

theorem removes_effect (ps : List Path) (t : Tree) :
    (∀ q, (exec (ps.map .remove) t).pool q = if q ∈ ps then none else t.pool q) ∧
    (exec (ps.map .remove) t).dists = t.dists := by
  induction ps generalizing t with
  | nil => exact ⟨fun q => by simp [exec_nil], rfl⟩
  | cons p ps ih =>
    simp only [List.map_cons, exec_cons]
    obtain ⟨a, b⟩ := ih (step t (.remove p))
    refine ⟨fun q => ?_, b⟩
    rw [a q]
    by_cases h1 : q ∈ ps <;> by_cases h2 : q = p <;> simp [h1, h2, step]

theorem keep_of_needed (need : Need) (n : PoolNeed) (hn : n ∈ need.pool) : keep need n.path = true := by
  simp only [keep, Bool.or_eq_true, List.any_eq_true, decide_eq_true_eq]
  exact Or.inl ⟨n, hn, rfl⟩

theorem keep_false (need : Need) (q : Path) (h : keep need q = false) : (∀ n ∈ need.pool, n.path ≠ q) ∧ need.keepExtra q = false := by
  unfold keep at h
  simp only [Bool.or_eq_false_iff, List.any_eq_false, decide_eq_true_eq] at h
  exact ⟨h.1, h.2⟩

/-- the paths the cleaner removes, up to any point: never a kept one -/
theorem cleanOps_take (t : Tree) (need : Need) (j : Nat) :
    ∃ ps : List Path, (cleanOps t need).take j = ps.map .remove ∧ ∀ p ∈ ps, keep need p = false := by
  refine ⟨_, List.map_take.symm, fun p hp => ?_⟩
  have := (List.mem_filter.mp (List.mem_of_mem_take hp)).2
  simp only [Bool.and_eq_true, Bool.not_eq_true'] at this
  exact this.2

theorem clean_effect (t : Tree) (need : Need) (hw : WF t) (q : Path) :
    (exec (cleanOps t need) t).pool q = if keep need q then t.pool q else none := by
  rw [cleanOps, (removes_effect _ t).1 q]
  by_cases hk : keep need q = true
  · simp [hk]
  · cases hq : t.pool q with
    | none => simp
    | some f => simp [List.mem_filter, List.mem_eraseDups, hw q (by simp [hq]), hq, hk]

/-! ### invariants along arbitrary operation sequences -/

theorem WF_exec (ops : List Op) (t : Tree) (h : WF t) : WF (exec ops t) :=
  exec_invariant (P := WF) (fun op _ t h p hp => by
    cases op with
    | swap m => exact h p hp
    | create q tag =>
      by_cases e : p = q
      · exact e ▸ List.mem_cons_self
      · exact List.mem_cons_of_mem _ (h p (by simpa [step, e] using hp))
    | append q k =>
      refine h p fun hn => hp ?_
      by_cases e : p = q
      · subst e; simp [step, hn]
      · simp [step, e, hn]
    | remove q =>
      refine h p fun hn => hp ?_
      by_cases e : p = q <;> simp [step, e, hn]) h

/-- S1 is kept as long as every file that is created is going to receive the body served for its path -/
theorem K_exec (need : Need) (ops : List Op) (t : Tree) (h : K need t)
    (ho : ∀ p tag, Op.create p tag ∈ ops → ∀ n ∈ need.pool, n.path = p → n.tag = tag) : K need (exec ops t) :=
  exec_invariant (P := K need) (fun op hop t h n hn f hf => by
    cases op with
    | swap m => exact h n hn f hf
    | create q tag =>
      by_cases e : n.path = q
      · rw [← Option.some.inj ((by simpa [step, e] using hf) : some (File.mk 0 tag) = some f)]
        exact (ho q tag hop n hn e).symm
      · exact h n hn f (by simpa [step, e] using hf)
    | append q k =>
      by_cases e : n.path = q
      · cases hq : t.pool q with
        | none => simp [step, e, hq] at hf
        | some g =>
          rw [← Option.some.inj ((by simpa [step, e, hq] using hf) : some (File.mk (g.size + k) g.tag) = some f)]
          exact h n hn g (e ▸ hq)
      · exact h n hn f (by simpa [step, e] using hf)
    | remove q =>
      by_cases e : n.path = q
      · simp [step, e] at hf
      · exact h n hn f (by simpa [step, e] using hf)) h

/-- the files a run creates are queue entries, each with the tag of its entry -/
theorem runOps_creates (t : Tree) (need : Need) (p : Path) (tag : Nat) (h : Op.create p tag ∈ runOps t need) :
    ∃ n ∈ need.pool, n.path = p ∧ n.tag = tag := by
  simp only [runOps, cleanOps, List.mem_append, List.mem_singleton, List.mem_map, reduceCtorEq, and_false, exists_false,
    or_false] at h
  obtain ⟨n, hn, ho, -⟩ := poolOps_mem _ _ _ h
  obtain e | ⟨c, -, e⟩ := mem_writeOps.mp ho <;> cases e
  exact ⟨n, hn, rfl, rfl⟩

/-- S1 at every crash point of a run for `need`, with respect to the needs `need'` of another run that agrees with it on the
    body behind every shared path -/
theorem crash_keeps_K (t : Tree) (need need' : Need) (hk' : K need' t)
    (hagree : ∀ n ∈ need.pool, ∀ m ∈ need'.pool, m.path = n.path → m.tag = n.tag) (k : Nat) : K need' (crash t need k) := by
  refine K_exec need' _ t hk' fun p tag hop m hm hp => ?_
  obtain ⟨n, hn, rfl, rfl⟩ := runOps_creates t need p tag (List.mem_of_mem_take hop)
  exact hagree n hn m hm hp

theorem run_keeps_K (t : Tree) (need : Need) (hok : NeedOK need) (hk : K need t) : K need (run t need) := by
  have := crash_keeps_K t need need hk (fun n hn m hm hp => by rw [eq_of_key_eq hok.distinct hm hn hp]) (runOps t need).length
  rwa [crash, List.take_length] at this

/-! ### the whole run, and where a crash can fall -/

/-- what a run that ends without error leaves behind: the new metadata, and of the pool stage's result what is kept -/
theorem run_effect (t : Tree) (need : Need) (hw : WF t) :
    (run t need).dists = lookupMeta need.mfiles ∧
    ∀ q, (run t need).pool q = if keep need q then (exec (poolOps t need.pool) t).pool q else none := by
  unfold run runOps
  rw [exec_append, exec_append]
  exact ⟨(removes_effect _ _).2, clean_effect (step (exec (poolOps t need.pool) t) (.swap need.mfiles)) need (WF_exec _ _ hw)⟩

theorem run_present (t : Tree) (need : Need) (hw : WF t) (hok : NeedOK need) : ∀ n ∈ need.pool, present (run t need) n = true :=
  fun n hn => by
    rw [present_congr (t := exec (poolOps t need.pool) t) (by rw [(run_effect t need hw).2, keep_of_needed need n hn]; rfl)]
    exact pool_present _ t hok.distinct hok.sums n hn

/-- a crash falls into the pool stage, or after the swap with some files, none of them kept, already removed -/
theorem crash_cases (t : Tree) (need : Need) (k : Nat) :
    (∃ j, crash t need k = exec ((poolOps t need.pool).take j) t) ∨
    ∃ ps : List Path, (∀ p ∈ ps, keep need p = false) ∧
      crash t need k = exec (ps.map .remove) (step (exec (poolOps t need.pool) t) (.swap need.mfiles)) := by
  unfold crash runOps
  rw [List.append_assoc, List.take_append]
  cases hj : k - (poolOps t need.pool).length with
  | zero => exact Or.inl ⟨k, by simp⟩
  | succ j =>
    obtain ⟨ps, hps, hk⟩ := cleanOps_take (exec (poolOps t need.pool) t) need j
    refine Or.inr ⟨ps, hk, ?_⟩
    rw [List.take_of_length_le (by omega), exec_append, List.singleton_append, List.take_succ_cons, exec_cons, hps]

/-- given S1 before, a run leaves every needed file complete and with the right body: the size is what the pool stage leaves,
    the body what S1 says of the final tree -/
theorem run_content (t : Tree) (need : Need) (hw : WF t) (hok : NeedOK need) (hk : K need t) :
    ∀ n ∈ need.pool, (run t need).pool n.path = some ⟨n.size, n.tag⟩ := by
  intro n hn
  obtain ⟨f, hf, hs⟩ := present_iff.mp (run_present t need hw hok n hn)
  rw [hf, ← hs, ← run_keeps_K t need hok hk n hn f hf]

/-- what a run leaves outside skip-clean paths does not depend on the tree it found, as long as that tree respected S1 -/
theorem run_agree (t₁ t₂ : Tree) (need : Need) (h₁ : WF t₁) (h₂ : WF t₂) (hok : NeedOK need) (k₁ : K need t₁) (k₂ : K need t₂) :
    (run t₁ need).dists = (run t₂ need).dists ∧
    ∀ q, need.keepExtra q = false → (run t₁ need).pool q = (run t₂ need).pool q := by
  refine ⟨by rw [(run_effect t₁ need h₁).1, (run_effect t₂ need h₂).1], fun q hx => ?_⟩
  cases hk : keep need q with
  | false => rw [(run_effect t₁ need h₁).2, (run_effect t₂ need h₂).2, hk]; rfl
  | true =>
    obtain ⟨n, hn, rfl⟩ : ∃ n ∈ need.pool, n.path = q := by simpa [keep, hx] using hk
    rw [run_content t₁ need h₁ hok k₁ n hn, run_content t₂ need h₂ hok k₂ n hn]

end Mirror
end AptMirror
